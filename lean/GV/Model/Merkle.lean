/-
  C35 — Byron merkle root.  Mirrors ledger/byron/merkle.go:
    MerkleRoot / merkleNode / largestPowerOfTwoBelow.

  The hash is a parameter (`h`): in the Go code it is `common.Blake2b256Hash`.
  `largestPow2Below` is the hand model of `largestPowerOfTwoBelow` over `Nat`;
  the GoLite translation of the Go function (`GV.Gen.GoLite.largestPowerOfTwoBelow`,
  over 64-bit wrapping `Int`) is proved equal to it for every length a Go slice
  can have (2 ≤ n ≤ 2^62) in `GV.Props.C35.gen_split_eq_model`.
-/
namespace GV.Model.Merkle

abbrev Bytes := List UInt8

/-- the loop `for power*2 < n { power *= 2 }`; fuel `n` is never exhausted
    before the test fails (each round at least adds one to `power`). -/
def lp2Loop : Nat → Nat → Nat → Nat
  | 0, _, power => power
  | fuel + 1, n, power =>
    if power * 2 < n then lp2Loop fuel n (power * 2) else power

/-- `largestPowerOfTwoBelow` -/
def largestPow2Below (n : Nat) : Nat := lp2Loop n n 1

theorem lp2Loop_spec : ∀ (fuel n k : Nat), 2 ^ k < n → n ≤ 2 ^ k + fuel →
    ∃ k', lp2Loop fuel n (2 ^ k) = 2 ^ k' ∧ 2 ^ k' < n ∧ n ≤ 2 * 2 ^ k' := by
  intro fuel
  induction fuel with
  | zero => intro n k h1 h2; omega
  | succ f ih =>
    intro n k h1 h2
    have hpos := Nat.pow_pos (n := k) (by decide : 0 < 2)
    simp only [lp2Loop]
    split
    next hc =>
      have := ih n (k + 1) (by rw [Nat.pow_succ]; exact hc) (by rw [Nat.pow_succ]; omega)
      rwa [Nat.pow_succ] at this
    · exact ⟨k, rfl, h1, by omega⟩

theorem largestPow2Below_spec (n : Nat) (h : 2 ≤ n) :
    ∃ k, largestPow2Below n = 2 ^ k ∧ 2 ^ k < n ∧ n ≤ 2 * 2 ^ k :=
  lp2Loop_spec n n 0 (by omega) (by omega)

theorem largestPow2Below_bounds (n : Nat) (h : 2 ≤ n) :
    0 < largestPow2Below n ∧ largestPow2Below n < n ∧ n ≤ 2 * largestPow2Below n := by
  obtain ⟨k, hk, hb⟩ := largestPow2Below_spec n h
  have := Nat.pow_pos (n := k) (by decide : 0 < 2)
  omega

def merkleLeafTag : UInt8 := 0
def merkleBranchTag : UInt8 := 1

/-- `merkleNode` (called with a non-empty list only; on `[]` the Go code computes
    `split = 1` and panics at `items[:1]` of an empty slice; the model
    returns `h []`, never reached from `merkleRoot`). -/
def merkleNode (h : Bytes → Bytes) (items : List Bytes) : Bytes :=
  match items with
  | [] => h []
  | [x] => h (merkleLeafTag :: x)
  | x :: y :: rest =>
    let n := (x :: y :: rest).length
    let split := largestPow2Below n
    let left := merkleNode h ((x :: y :: rest).take split)
    let right := merkleNode h ((x :: y :: rest).drop split)
    h (merkleBranchTag :: (left ++ right))
termination_by items.length
decreasing_by
  all_goals
    have hb := largestPow2Below_bounds (x :: y :: rest).length (by simp)
    simp only [List.length_take, List.length_drop]
    omega

/-- `MerkleRoot` -/
def merkleRoot (h : Bytes → Bytes) (items : List Bytes) : Bytes :=
  if items.isEmpty then h [] else merkleNode h items

end GV.Model.Merkle
