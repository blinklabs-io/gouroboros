import GV.Lib.VersionTable
/-!
Facts about the regenerated version tables shared by C18 and C20: each entry of a generated
map is well formed and of the Go type that the version's own decoder produces.
-/
namespace GV.Proofs.VersionTable
open GV.Model.VersionData GV.Model.Handshake GV.Lib.VersionTable

def shapes : List (List (Nat × Nat)) :=
  [GV.Gen.Versions.mapNtC, GV.Gen.Versions.mapNtN, GV.Gen.Versions.mapDmqNtC, GV.Gen.Versions.mapDmqNtN]

/-- Regenerated tie: the Go type of every generated entry is the type its version's decoder
    (identified by function identity in the running code) produces. -/
theorem shape_kinds_match :
    ∀ shape ∈ shapes, ∀ e ∈ shape, lk e.1 = Kind.ofNat? e.2 ∧ (Kind.ofNat? e.2).isSome = true := by
  decide

theorem genEntry_kind (k : Kind) (magic : Nat) (dm ps q : Bool) : (genEntry k magic dm ps q).kind = k := by
  cases k <;> rfl

theorem genEntry_wf (k : Kind) (magic : Nat) (hm : magic < 4294967296) (dm ps q : Bool) :
    (genEntry k magic dm ps q).wf := by
  cases k <;> cases ps <;> simp [genEntry, VData.wf, hm]

theorem genMap_cons {shape : List (Nat × Nat)} {v : Nat} {vs : List Nat} {magic : Nat} {dm ps q : Bool}
    {m : VMap} (h : genMap shape (v :: vs) magic dm ps q = some m) :
    ∃ kn k m', lookupMap shape v = some kn ∧ Kind.ofNat? kn = some k ∧
      genMap shape vs magic dm ps q = some m' ∧ m = (v, genEntry k magic dm ps q) :: m' := by
  rw [genMap] at h
  split at h
  -- the entry type and the rest of the map were both found
  next k m' hk hr =>
    obtain ⟨kn, hl, hk⟩ := Option.bind_eq_some_iff.mp hk
    exact ⟨kn, k, m', hl, hk, hr, (Option.some.inj h).symm⟩
  next => cases h

theorem genMap_keys (shape : List (Nat × Nat)) (ks : List Nat) (magic : Nat) (dm ps q : Bool) (m : VMap)
    (h : genMap shape ks magic dm ps q = some m) : keys m = ks := by
  induction ks generalizing m with
  | nil => cases h; rfl
  | cons v vs ih =>
    obtain ⟨_, _, m', _, _, hr, rfl⟩ := genMap_cons h
    rw [← ih m' hr]; rfl

end GV.Proofs.VersionTable
