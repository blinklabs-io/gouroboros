import GV.Proofs.Pipeline
/-
  History invariant of the pipeline step system: what `applied` and `results` contain, while the
  pipeline runs and after Stop has begun; with it, `NoGap` in every reachable state.
-/
namespace GV.Proofs.Pipeline
open GV.Model.Pipeline

/-! ### lists numbered 0, 1, 2, … -/

theorem seq_lt_of_mem {l : List Item} {n : Nat} (hl : l.map Item.seq = List.range n) {x : Item} (hx : x ∈ l) :
    x.seq < n :=
  List.mem_range.mp (hl ▸ List.mem_map_of_mem hx)

theorem getElem?_seq {l : List Item} {n : Nat} (hl : l.map Item.seq = List.range n) {x : Item} (hx : x ∈ l) :
    l[x.seq]? = some x := by
  obtain ⟨i, hi, rfl⟩ := List.getElem_of_mem hx
  have h : (l.map Item.seq)[i]'(by simpa using hi) = i := by simp [hl]
  rw [List.getElem_map] at h
  rw [h, List.getElem?_eq_getElem hi]

theorem seq_inj {l : List Item} {n : Nat} (hl : l.map Item.seq = List.range n) {x y : Item}
    (hx : x ∈ l) (hy : y ∈ l) (h : x.seq = y.seq) : x = y :=
  Option.some.inj ((getElem?_seq hl hx).symm.trans (h ▸ getElem?_seq hl hy))

theorem okSeqs_append (c : Cfg) (a b : List Item) : okSeqs c (a ++ b) = okSeqs c a ++ okSeqs c b := by
  simp [okSeqs]

theorem okSeqs_sublist (c : Cfg) (l : List Item) : (okSeqs c l).Sublist (l.map Item.seq) :=
  List.filter_sublist.map _

theorem okSeqs_take_succ (c : Cfg) {l : List Item} {n : Nat} (hl : l.map Item.seq = List.range n) {x : Item}
    (hx : x ∈ l) :
    okSeqs c (l.take (x.seq + 1)) = okSeqs c (l.take x.seq) ++ if x.ok c then [x.seq] else [] := by
  rw [List.take_add_one, getElem?_seq hl hx, okSeqs_append]
  cases h : x.ok c <;> simp [okSeqs, h]

/-! ### what `applied` and `results` contain -/

/-- the sequence number up to which `applied` is decided -/
def decided (s : St) : Nat :=
  match s.runner with
  | .deq x _ => x.seq
  | _ => s.nextSeq

/-- processed-but-not-yet-forwarded items of the runner, in order -/
def outAll (s : St) : List Item :=
  match s.runner with
  | .fwd out => out
  | .hand _ => []
  | .deq x out => out ++ [x]
  | .inApply x out => out ++ [x]
  | .drain out => out

/-- the block the runner has dequeued and is not yet done with -/
def cur : Runner → Option Item
  | .deq x _ | .inApply x _ => some x
  | _ => none

/-- `l` is the history `full` would be if Stop had not begun: the same list while
    `stopping = false`, a sublist of it afterwards (work is abandoned, but never done twice or
    out of order). -/
structure UpTo (stopping : Bool) (l full : List Nat) : Prop where
  sub : l.Sublist full
  eq : stopping = false → l = full

theorem UpTo.append {b : Bool} {l f : List Nat} (h : UpTo b l f) (t : List Nat) : UpTo b (l ++ t) (f ++ t) :=
  ⟨h.sub.append_right t, fun hb => by rw [h.eq hb]⟩

theorem UpTo.skip {b : Bool} {l f t : List Nat} (h : UpTo b l f) (ht : t = [] ∨ b = true) :
    UpTo b l (f ++ t) := by
  rcases ht with rfl | rfl
  · rwa [List.append_nil]
  · exact ⟨h.sub.trans (List.sublist_append_left f t), nofun⟩

theorem UpTo.drop {b : Bool} {l l' f : List Nat} (h : UpTo b l f) (hb : b = true) (hl : l'.Sublist l) :
    UpTo b l' f :=
  ⟨hl.trans h.sub, fun hf => absurd hb (ne_true_of_eq_false hf)⟩

theorem UpTo.stop {b : Bool} {l f : List Nat} (h : UpTo b l f) : UpTo true l f := ⟨h.sub, nofun⟩

/-- Holds in every reachable state, before and after the repair of `Submit`, also while and
    after the pipeline is stopped. -/
structure Hist (c : Cfg) (s : St) : Prop where
  /-- accepted blocks are numbered in order of acceptance -/
  subs_seq : s.subs.map Item.seq = List.range s.counter
  up_sub : ∀ x ∈ upstream s, x ∈ s.subs
  next_le : s.nextSeq ≤ s.counter
  cur_sub : ∀ x ∈ cur s.runner, x ∈ s.subs ∧ x.seq + 1 = s.nextSeq
  /-- ApplyFunc was called for the good ones among the first `decided s` accepted blocks -/
  applied : UpTo s.cancelled s.applied (okSeqs c (s.subs.take (decided s)))
  /-- every dequeued block is on the results stream or waiting to be forwarded, once -/
  out : UpTo s.cancelled (s.results ++ (outAll s).map Item.seq) (List.range s.nextSeq)

theorem hist_init (c : Cfg) : Hist c init :=
  ⟨rfl, nofun, Nat.le_refl _, nofun, ⟨.refl _, fun _ => rfl⟩, ⟨.refl _, fun _ => rfl⟩⟩

theorem Hist.subs_length {c : Cfg} {s : St} (h : Hist c s) : s.subs.length = s.counter := by
  simpa using congrArg List.length h.subs_seq

theorem Hist.decided_le {c : Cfg} {s : St} (h : Hist c s) : decided s ≤ s.counter := by
  unfold decided
  split
  · have := (h.cur_sub _ (by rw [‹s.runner = _›]; rfl)).2
    exact Nat.le_of_succ_le (this.symm ▸ h.next_le : _ + 1 ≤ _)
  · exact h.next_le

theorem hist_step {c : Cfg} {s s' : St} {e : Ev} (h : Hist c s) (hs : Step c s e s') : Hist c s' := by
  have hd : decided s ≤ s.subs.length := h.subs_length ▸ h.decided_le
  obtain ⟨h1, h2, h3, h4, h5, h6⟩ := h
  have flow : s'.subs.map Item.seq = List.range s'.counter ∧ (∀ x ∈ upstream s', x ∈ s'.subs) ∧
      s'.nextSeq ≤ s'.counter := by
    have hseq (x : Item) (hx : x.seq = s.counter) :
        (s.subs ++ [x]).map Item.seq = List.range (s.counter + 1) := by
      rw [List.map_append, h1, List.range_succ, List.map_singleton, hx]
    have hf := hs.flow
    -- as variables, so that `cases` puts in for them what the step leaves there
    generalize upstream s' = u, s'.counter = n, s'.subs = l, s'.nextSeq = k, s'.cancelled = b at hf ⊢
    cases hf with
    | move hu | stop _ hu => exact ⟨h1, fun y hy => h2 y (hu.subset hy), h3⟩
    | sub x hx =>
      refine ⟨hseq x hx, fun y hy => ?_, Nat.le_succ_of_le h3⟩
      rcases List.mem_cons.mp hy with rfl | hy
      · exact List.mem_append_right _ (List.mem_singleton_self _)
      · exact List.mem_append_left _ (h2 y hy)
    | burn x _ hx => exact ⟨hseq x hx, fun y hy => List.mem_append_left _ (h2 y hy), Nat.le_succ_of_le h3⟩
    | deq x hx hu =>
      exact ⟨h1, fun y hy => h2 y (hu.symm.subset (List.mem_cons_of_mem _ hy)),
        hx ▸ seq_lt_of_mem h1 (h2 x (hu.symm.subset List.mem_cons_self))⟩
  -- the apply stage's progress: the remaining fields `cur_sub`, `applied`, `out`
  suffices _ ∧ _ ∧ _ from ⟨flow.1, flow.2.1, flow.2.2, this.1, this.2.1, this.2.2⟩
  cases hs with
  | sub | failLegacy =>
    refine ⟨fun x hx => (h4 x hx).imp_left (List.mem_append_left _), ?_, h6⟩
    -- the new block lies beyond position `decided s`, so `take` does not see it
    dsimp only [decided] at hd ⊢; rwa [List.take_append_of_le_length hd]
  | cancel => exact ⟨h4, h5.stop, h6.stop⟩
  | @aqHand s x hx | @aqDrain s x _ hp hx =>
    -- `x` was upstream, in the runner's hand or in `pending`
    have hxs : x ∈ s.subs := h2 x (by simp [upstream, *])
    refine ⟨fun y hy => ?_, hx ▸ h5, ?_⟩
    · obtain rfl : x = y := Option.some.inj hy
      exact ⟨hxs, congrArg (· + 1) hx⟩
    · simpa only [outAll, List.map_append, List.map_cons, List.map_nil, List.append_assoc, List.append_nil,
        List.nil_append, List.range_succ, hx] using h6.append [x.seq]
  | @ap s x out hok =>
    obtain ⟨hx, hn⟩ : x ∈ s.subs ∧ x.seq + 1 = s.nextSeq := h4 x rfl
    refine ⟨h4, ?_, h6⟩
    simpa only [decided, ← hn, okSeqs_take_succ c h1 hx, hok, if_true] using h5.append [x.seq]
  | @adSkip s x out hg =>
    obtain ⟨hx, hn⟩ : x ∈ s.subs ∧ x.seq + 1 = s.nextSeq := h4 x rfl
    refine ⟨nofun, ?_, h6⟩
    simpa only [decided, ← hn, okSeqs_take_succ c h1 hx] using
      h5.skip (t := if x.ok c then [x.seq] else []) (hg.imp_left fun h => by rw [h]; rfl)
  | adDone => exact ⟨nofun, h5, h6⟩
  | rsDrain | rsFwd =>
    exact ⟨h4, h5, by simpa only [outAll, List.map_cons, List.append_assoc, List.singleton_append] using h6⟩
  | rdDrain hk | rdFwd hk => exact ⟨h4, h5, h6.drop hk ((List.sublist_cons_self _ _).append_left _)⟩
  | _ => exact ⟨h4, h5, h6⟩

theorem hist_reachable (c : Cfg) (s : St) (h : Reachable c s) : Hist c s :=
  reachable_induction (hist_init c) hist_step s h

theorem Hist.applied_sorted {c : Cfg} {s : St} (h : Hist c s) : s.applied.Pairwise (· < ·) :=
  (h.subs_seq ▸ List.pairwise_lt_range).sublist
    ((h.applied.sub.trans (okSeqs_sublist c _)).trans ((List.take_sublist _ _).map _))

theorem Hist.applied_ok {c : Cfg} {s : St} (h : Hist c s) :
    ∀ q ∈ s.applied, ∃ x ∈ s.subs, x.seq = q ∧ x.ok c = true := by
  intro q hq
  obtain ⟨x, hx, rfl⟩ := List.mem_map.mp (h.applied.sub.subset hq)
  obtain ⟨hx, hok⟩ := List.mem_filter.mp hx
  exact ⟨x, List.mem_of_mem_take hx, rfl, hok⟩

/-! ### `NoGap` is kept (given `Hist` of the state after the step) -/

theorem noGap_step {c : Cfg} (hc : c.legacy = false) {s s' : St} {e : Ev} (hh : Hist c s') (h : NoGap s)
    (hs : Step c s e s') : NoGap s' := by
  refine ⟨fun x hx => seq_lt_of_mem hh.subs_seq (hh.up_sub x hx), hh.next_le, ?_, ?_⟩
  · -- blocks enter `upstream` with the number `counter` and leave it with the number `nextSeq`
    have h3 := h.present
    have hf := hs.flow
    generalize upstream s' = u, s'.counter = n, s'.subs = l, s'.nextSeq = k, s'.cancelled = b at hf ⊢
    cases hf with
    | burn _ hl => cases hc.symm.trans hl
    | move hu => simpa only [hu.mem_iff] using h3
    | sub x hx =>
      simp only [List.mem_cons]
      intro hcn i hi hlt
      rcases Nat.lt_succ_iff_lt_or_eq.mp hlt with hlt | rfl
      · exact (h3 hcn i hi hlt).imp fun y hy => ⟨.inr hy.1, hy.2⟩
      · exact ⟨x, .inl rfl, hx⟩
    | deq x hx hu =>
      intro hcn i hi hlt
      obtain ⟨y, hy, rfl⟩ := h3 hcn i (Nat.le_of_succ_le hi) hlt
      rcases List.mem_cons.mp (hu.subset hy) with rfl | hy'
      · exact absurd hi (hx ▸ Nat.lt_irrefl _)
      · exact ⟨y, hy', rfl⟩
    | stop hk => exact fun hcn => absurd hk (ne_true_of_eq_false hcn)
  · -- the runner only goes idle (`fwd`, `hand`) by buffering a block with another number (`ab`)
    -- or after it has looked through `pending`
    have h4 := h.not_buffered
    cases hs with
    | cancel => exact nofun
    | ab hx => exact fun hc p hp => (List.mem_cons.mp hp).elim (· ▸ hx) (h4 hc p)
    | aqHand | aqDrain | ap | adSkip | adDone => exact fun _ => trivial
    | rsDrain hg => exact fun hc => hg.resolve_left (ne_true_of_eq_false hc)
    | rdDrain hk => exact fun hc => absurd hk (ne_true_of_eq_false hc)
    | _ => exact h4

theorem noGap_hist_reachable (c : Cfg) (hc : c.legacy = false) (s : St) (h : Reachable c s) : NoGap s ∧ Hist c s :=
  reachable_induction (P := fun s => NoGap s ∧ Hist c s) ⟨noGap_init, hist_init c⟩
    (fun hi hs =>
      have hh := hist_step hi.2 hs
      ⟨noGap_step hc hh hi.1 hs, hh⟩) s h

theorem quiescent_next (s : St) (hg : NoGap s) (hcn : s.cancelled = false) (hq : Quiescent s) :
    s.nextSeq = s.counter := by
  obtain ⟨q1, q2, q3, q4, q5, q6⟩ := hq
  refine Nat.le_antisymm hg.next_le (Nat.not_lt.mp fun hlt => ?_)
  obtain ⟨x, hx, hxs⟩ := hg.present hcn s.nextSeq (Nat.le_refl _) hlt
  have hnb := hg.not_buffered hcn
  simp only [q6] at hnb
  simp only [upstream, q1, q2, q3, q4, q5, q6, List.append_nil, List.nil_append] at hx
  exact hnb x hx hxs

theorem at_rest {c : Cfg} {s : St} (hg : NoGap s) (hh : Hist c s) (hcn : s.cancelled = false)
    (hq : Quiescent s) :
    s.applied = okSeqs c s.subs ∧ s.results = List.range s.counter ∧ s.nextSeq = s.counter := by
  have hn := quiescent_next s hg hcn hq
  have ha := hh.applied.eq hcn
  have hres := hh.out.eq hcn
  simp only [decided, outAll, hq.2.2.2.2.2, hn, List.map_nil, List.append_nil] at ha hres
  exact ⟨by rw [ha, ← hh.subs_length, List.take_length], hres, hn⟩

end GV.Proofs.Pipeline
