import GV.Proofs.PipelineHist
/-
  C43: what `PendingCount() = 0` implies, now and for every continuation of the schedule.
-/
namespace GV.Proofs.Pipeline
open GV.Model.Pipeline

theorem processed_le_decided {c : Cfg} {s : St} (h : Hist c s) : processed s ≤ decided s := by
  have hcur := h.cur_sub
  unfold processed decided
  cases hr : s.runner with
  | deq x out => exact Nat.le_of_eq (Nat.sub_eq_of_eq_add (hcur x (hr ▸ rfl)).2.symm)
  | inApply x out => exact Nat.sub_le _ _
  | _ => exact Nat.le_refl _

theorem step_applied {c : Cfg} {s s' : St} {e : Ev} (h : Hist c s) (hs : Step c s e s') :
    processed s ≤ processed s' ∧ (s'.applied = s.applied ∨ s'.applied = s.applied ++ [processed s]) := by
  have hcur := h.cur_sub
  cases hs with
  | @ap s x out => exact ⟨Nat.le_refl _, .inr (by rw [← (hcur x rfl).2]; rfl)⟩
  | adSkip | adDone => exact ⟨Nat.sub_le _ _, .inl rfl⟩
  | _ => exact ⟨Nat.le_refl _, .inl rfl⟩

theorem run_applied_after {c : Cfg} {s s' : St} {es : List Ev} (h : Hist c s) (hr : run c s es = some s') :
    ∃ rest, s'.applied = s.applied ++ rest ∧ ∀ q ∈ rest, processed s ≤ q := by
  refine (run_invariant (P := fun t => Hist c t ∧ processed s ≤ processed t ∧
    ∃ rest, t.applied = s.applied ++ rest ∧ ∀ q ∈ rest, processed s ≤ q) ?_
    ⟨h, Nat.le_refl _, [], (List.append_nil _).symm, nofun⟩ hr).2.2
  intro t e t' _ ⟨ht, hm, rest, hrest, hge⟩ hs
  obtain ⟨hm', happ⟩ := step_applied ht (.of_step hs)
  refine ⟨hist_step ht (.of_step hs), Nat.le_trans hm hm', ?_⟩
  rcases happ with happ | happ
  · exact ⟨rest, happ ▸ hrest, hge⟩
  · refine ⟨rest ++ [processed t], by rw [happ, hrest, List.append_assoc], fun q hq => ?_⟩
    rcases List.mem_append.mp hq with hq | hq
    · exact hge q hq
    · rw [List.mem_singleton.mp hq]
      exact hm

theorem step_reads {c : Cfg} {s s' : St} {e : Ev} (hs : Step c s e s') :
    ∀ p ∈ s'.reads, p ∈ s.reads ∨ p = s.counter - processed s := by
  cases hs with
  | pa => exact fun p hp => (List.mem_cons.mp hp).symm
  | pb => exact fun p hp => .inl (List.mem_of_mem_erase hp)
  | _ => exact fun p hp => .inl hp

theorem reads_origin (c : Cfg) (s : St) (hr : Reachable c s) :
    ∀ p ∈ s.reads, ∃ s0 es, Reachable c s0 ∧ s0.counter - processed s0 = p ∧ run c s0 es = some s := by
  obtain ⟨es0, hes⟩ := hr
  refine (run_invariant
    (P := fun s => Reachable c s ∧ ∀ p ∈ s.reads, ∃ s0 es, Reachable c s0 ∧ s0.counter - processed s0 = p ∧ run c s0 es = some s)
    ?_ ⟨⟨[], rfl⟩, by simp [init]⟩ hes).2
  intro s e s' _ ⟨hreach, hi⟩ hs
  have hrun : run c s [e] = some s' := by simp [run, hs]
  refine ⟨reachable_run [e] hreach hrun, fun p hp => ?_⟩
  rcases step_reads (.of_step hs) p hp with hold | hnew
  · obtain ⟨s0, es, h0, h1, h2⟩ := hi p hold
    exact ⟨s0, es ++ [e], h0, h1, by rw [run_append, h2]; exact hrun⟩
  · exact ⟨s, [e], hreach, hnew.symm, hrun⟩

end GV.Proofs.Pipeline
