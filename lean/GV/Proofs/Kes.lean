import GV.Model.Kes
import GV.Model.KesSym
/-!
C39 (KES sum composition): `keyGen` and `update` compute the closed form `stateAt`; completeness,
binding under ideal primitives and which seeds an evolved key still holds are proved of that.
-/
namespace GV.Proofs.Kes
open GV.Model.Kes

variable {Seed Key Msg Sig : Type} (P : Prims Seed Key Msg Sig)

theorem shl1_of_lt {d : Nat} (h : d < 64) : shl1 d = 2 ^ d := by simp [shl1, h]

theorem keyGenInternal_eq (d : Nat) (s : Seed) :
    keyGenInternal P d s = (stateAt P d s 0, pkFromSeed P d s) := by
  induction d generalizing s with
  | zero => rfl
  | succ d ih => simp [keyGenInternal, stateAt, pkFromSeed, ih, Nat.two_pow_pos]

/-- One level of the tree: at depth `d + 1` period `t` lies in the right half iff `2^d ≤ t`, and is
    period `periodInHalf d t` of that half. -/
def periodInHalf (d t : Nat) : Nat := if t < 2 ^ d then t else t - 2 ^ d

theorem periodInHalf_lt {d t : Nat} (h : t < 2 ^ (d + 1)) : periodInHalf d t < 2 ^ d := by
  unfold periodInHalf; split <;> omega

theorem stateAt_succ (d : Nat) (s : Seed) (t : Nat) :
    stateAt P (d + 1) s t =
      .node (stateAt P d (P.expand s (decide (2 ^ d ≤ t))) (periodInHalf d t))
        (if t < 2 ^ d then P.expand s true else P.zero)
        (pkFromSeed P d (P.expand s false)) (pkFromSeed P d (P.expand s true)) := by
  simp only [stateAt, periodInHalf]
  split <;> rename_i h
  · simp [Nat.not_le.mpr h]
  · simp [Nat.le_of_not_lt h]

theorem depth_stateAt (d : Nat) (s : Seed) (t : Nat) : (stateAt P d s t).depth = d := by
  induction d generalizing s t with
  | zero => rfl
  | succ d ih => simp [stateAt_succ, SKey.depth, ih]

theorem publicKeyInternal_stateAt (d : Nat) (s : Seed) (t : Nat) :
    publicKeyInternal P (stateAt P d s t) = pkFromSeed P d s := by
  cases d with
  | zero => rfl
  | succ d => rw [stateAt_succ]; rfl

theorem updateInternal_stateAt (d : Nat) (s : Seed) (t : Nat) (h : t + 1 < 2 ^ d) :
    updateInternal P (stateAt P d s t) t = stateAt P d s (t + 1) := by
  induction d generalizing s t with
  | zero => simp at h
  | succ d ih =>
    simp only [stateAt]
    by_cases h1 : t + 1 < 2 ^ d
    · have h0 : t < 2 ^ d := by omega
      simp only [h0, h1, if_true, updateInternal, depth_stateAt]
      rw [ih _ _ h1]
    · by_cases h2 : t + 1 = 2 ^ d
      · have h0 : t < 2 ^ d := by omega
        simp only [h0, if_true, updateInternal, depth_stateAt, h2, keyGenInternal_eq,
          Nat.lt_irrefl, if_false, Nat.sub_self]
      · have h0 : ¬ t < 2 ^ d := by omega
        have h5 : t + 1 - 2 ^ d = (t - 2 ^ d) + 1 := by omega
        simp only [h0, h1, h2, if_false, updateInternal, depth_stateAt, h5]
        rw [ih _ _ (by omega)]

theorem signInternal_node (c : SKey Seed Key) (rs : Seed) (l r : Key) (t : Nat) (m : Msg) :
    signInternal P (.node c rs l r) t m = .node (signInternal P c (periodInHalf c.depth t) m) l r := by
  simp only [signInternal, periodInHalf]
  split <;> rfl

theorem depth_signInternal (k : SKey Seed Key) (t : Nat) (m : Msg) :
    (signInternal P k t m).depth = k.depth := by
  induction k generalizing t with
  | leaf s => rfl
  | node c rs l r ih => simp [signInternal_node, KSig.depth, SKey.depth, ih]

theorem signInternal_stateAt_succ (d : Nat) (s : Seed) (t : Nat) (m : Msg) :
    signInternal P (stateAt P (d + 1) s t) t m =
      .node (signInternal P (stateAt P d (P.expand s (decide (2 ^ d ≤ t))) (periodInHalf d t))
          (periodInHalf d t) m)
        (pkFromSeed P d (P.expand s false)) (pkFromSeed P d (P.expand s true)) := by
  rw [stateAt_succ, signInternal_node, depth_stateAt]

theorem leafSeed_succ (d : Nat) (s : Seed) (t : Nat) :
    leafSeed P (d + 1) s t = leafSeed P d (P.expand s (decide (2 ^ d ≤ t))) (periodInHalf d t) := by
  simp only [leafSeed, periodInHalf]
  split <;> rename_i h
  · simp [Nat.not_le.mpr h]
  · simp [Nat.le_of_not_lt h]

theorem verify_node [DecidableEq Key] (inner : KSig Key Sig) (l r K : Key) (q : Nat) (m : Msg) :
    verify P (.node inner l r) q K m = true ↔
      q < shl1 (inner.depth + 1) ∧ P.hashPair l r = K ∧
      verify P inner (periodInHalf inner.depth q) (if 2 ^ inner.depth ≤ q then r else l) m = true := by
  simp only [verify, periodInHalf]
  by_cases h1 : q < shl1 (inner.depth + 1) <;> by_cases h2 : P.hashPair l r = K <;>
    by_cases h3 : q < 2 ^ inner.depth <;> simp [h1, h2, h3, Nat.not_le.mpr, Nat.le_of_not_lt]

/-- `hd` is one conjunction, and last, as C39 `verify_iff` and `unforgeable_symbolic` carry the depth's range -/
theorem verify_lt [DecidableEq Key] {σ : KSig Key Sig} {q : Nat} {K : Key} {m : Msg}
    (h : verify P σ q K m = true) (hd : 1 ≤ σ.depth ∧ σ.depth < 64) : q < 2 ^ σ.depth := by
  cases σ with
  | leaf σ0 => cases hd.1
  | node inner l r =>
    rw [verify_node] at h
    exact shl1_of_lt hd.2 ▸ h.1

/-- the key `verify_node` checks the inner signature against, once `l`, `r` are the keys of the child seeds of `s` -/
theorem pk_side (d : Nat) (s : Seed) (c : Prop) [Decidable c] :
    (if c then pkFromSeed P d (P.expand s true) else pkFromSeed P d (P.expand s false)) =
      pkFromSeed P d (P.expand s (decide c)) := by
  split <;> simp [*]

theorem verify_signInternal [DecidableEq Key]
    (hc : ∀ s m, P.verify (P.pkOf s) m (P.sign s m) = true)
    (d : Nat) (s : Seed) (t : Nat) (m : Msg) (hd : d < 64) (ht : t < 2 ^ d) :
    verify P (signInternal P (stateAt P d s t) t m) t (pkFromSeed P d s) m = true := by
  induction d generalizing s t with
  | zero => simp [stateAt, signInternal, verify, pkFromSeed, hc]
  | succ d ih =>
    rw [signInternal_stateAt_succ, verify_node, depth_signInternal, depth_stateAt, pk_side]
    exact ⟨by rw [shl1_of_lt hd]; exact ht, rfl, ih _ _ (by omega) (periodInHalf_lt ht)⟩

/-- the evolved key of period `t` as a `SecretKey` value -/
def keyAt (d : Nat) (s : Seed) (t : Nat) : SecretKey Seed Key :=
  { depth := d, period := t, data := some (stateAt P d s t), pk := pkFromSeed P d s }

theorem keyGen_eq (d : Nat) (s : Seed) : keyGen P d s = keyAt P d s 0 := by
  simp [keyGen, keyAt, keyGenInternal_eq]

theorem update_keyAt (d : Nat) (s : Seed) (t : Nat) (hd : d < 64) (h : t + 1 < 2 ^ d) :
    update P (keyAt P d s t) = .ok (keyAt P d s (t + 1)) := by
  have h' : ¬ (t + 1 ≥ 2 ^ d) := by omega
  simp [update, keyAt, shl1_of_lt hd, h', updateInternal_stateAt P d s t h]

theorem update_exhausted (d : Nat) (s : Seed) (t : Nat) (hd : d < 64) (h : t + 1 ≥ 2 ^ d) :
    update P (keyAt P d s t) = .error .exhausted := by
  simp [update, keyAt, shl1_of_lt hd, h]

theorem updateN_keyAt (d : Nat) (s : Seed) (hd : d < 64) (n t0 : Nat) (h : t0 + n < 2 ^ d) :
    updateN P n (keyAt P d s t0) = .ok (keyAt P d s (t0 + n)) := by
  induction n generalizing t0 with
  | zero => rfl
  | succ n ih =>
    simp only [updateN, update_keyAt P d s t0 hd (by omega)]
    rw [ih (t0 + 1) (by omega)]
    congr 2; omega

/-! ### symbolic (ideal-primitive) direction -/

/-- Ideal primitives: injective hash / seed expansion / key derivation, and a
    signature scheme in which only genuine signatures verify. -/
structure Ideal : Prop where
  pk_inj : ∀ a b, P.pkOf a = P.pkOf b → a = b
  hp_inj : ∀ a b c d, P.hashPair a b = P.hashPair c d → a = c ∧ b = d
  exp_inj : ∀ a b x y, P.expand a x = P.expand b y → a = b ∧ x = y
  sign_inj : ∀ s s' m m', P.sign s m = P.sign s' m' → s = s' ∧ m = m'
  bind : ∀ k m σ, P.verify k m σ = true → ∃ s, k = P.pkOf s ∧ σ = P.sign s m

theorem pkFromSeed_inj (hI : Ideal P) (d : Nat) (a b : Seed)
    (h : pkFromSeed P d a = pkFromSeed P d b) : a = b := by
  induction d generalizing a b with
  | zero => exact hI.pk_inj _ _ h
  | succ d ih =>
    simp only [pkFromSeed] at h
    have := (hI.hp_inj _ _ _ _ h).1
    exact (hI.exp_inj _ _ _ _ (ih _ _ this)).1

theorem verify_binding [DecidableEq Key] (hI : Ideal P)
    (d : Nat) (s : Seed) (t q : Nat) (m m' : Msg) (K : Key)
    (ht : t < 2 ^ d) (hq : q < 2 ^ d)
    (h : verify P (signInternal P (stateAt P d s t) t m) q K m' = true) :
    K = pkFromSeed P d s ∧ q = t ∧ m' = m := by
  induction d generalizing s t q K with
  | zero =>
    simp only [stateAt, signInternal, verify] at h
    obtain ⟨s', hk, hs⟩ := hI.bind _ _ _ h
    obtain ⟨rfl, rfl⟩ := hI.sign_inj _ _ _ _ hs
    exact ⟨hk, by omega, rfl⟩
  | succ d ih =>
    rw [signInternal_stateAt_succ, verify_node, depth_signInternal, depth_stateAt, pk_side] at h
    obtain ⟨_, rfl, hv⟩ := h
    obtain ⟨hk, hqt, hm⟩ := ih _ _ _ _ (periodInHalf_lt ht) (periodInHalf_lt hq) hv
    -- equal subtree keys: verifier and signer went into the same half
    have hside := (hI.exp_inj _ _ _ _ (pkFromSeed_inj P hI d _ _ hk)).2
    refine ⟨rfl, ?_, hm⟩
    simp only [periodInHalf, decide_eq_decide] at hqt hside
    split at hqt <;> split at hqt <;> omega

theorem verify_unique [DecidableEq Key] (hI : Ideal P)
    (σ : KSig Key Sig) (s : Seed) (q : Nat) (m' : Msg)
    (h : verify P σ q (pkFromSeed P σ.depth s) m' = true) :
    σ = signInternal P (stateAt P σ.depth s q) q m' := by
  induction σ generalizing s q with
  | leaf σ0 =>
    simp only [verify, KSig.depth, pkFromSeed] at h
    obtain ⟨s', hk, hs⟩ := hI.bind _ _ _ h
    cases hI.pk_inj _ _ hk
    simp [KSig.depth, stateAt, signInternal, hs]
  | node i l r ih =>
    simp only [KSig.depth] at h ⊢
    rw [verify_node] at h
    obtain ⟨_, hk, hv⟩ := h
    obtain ⟨rfl, rfl⟩ := hI.hp_inj _ _ _ _ hk
    rw [pk_side] at hv
    rw [signInternal_stateAt_succ, ← ih _ _ hv]

/-! ### forward security: which seeds the evolved key still holds -/

/-- the Ed25519 signature at the leaf of a sum signature -/
def leafSig : KSig Key Sig → Sig
  | .leaf σ => σ
  | .node i _ _ => leafSig i

/-- The seeds reachable from `root` form a tree: `addr` gives each seed its path
    (none = not in the tree; the wiped cell is not in the tree). -/
structure TreeAddr (root : Seed) (addr : Seed → Option (List Bool)) : Prop where
  root : addr root = some []
  step : ∀ a x, addr (P.expand a x) = (addr a).map (· ++ [x])
  zero : addr P.zero = none

theorem derives_of_expand {a c : Seed} {x : Bool} (h : Derives P (P.expand a x) c) : Derives P a c := by
  induction h with
  | refl => exact .step x (.refl a)
  | step y _ ih => exact .step y ih

theorem derives_leafSeed (d : Nat) (a : Seed) (t : Nat) : Derives P a (leafSeed P d a t) := by
  induction d generalizing a t with
  | zero => exact .refl a
  | succ d ih => rw [leafSeed_succ]; exact derives_of_expand P (ih _ _)

theorem seeds_derives (d : Nat) (a : Seed) (t : Nat) :
    ∀ c ∈ (stateAt P d a t).seeds, c = P.zero ∨ Derives P a c := by
  induction d generalizing a t with
  | zero =>
    intro c hc
    rw [List.mem_singleton.mp hc]
    exact .inr (.refl a)
  | succ d ih =>
    intro c hc
    rw [stateAt_succ, SKey.seeds, List.mem_append, List.mem_singleton] at hc
    rcases hc with hc | rfl
    · exact (ih _ _ c hc).imp_right (derives_of_expand P)
    · split
      · exact .inr (.step true (.refl a))  -- the right seed, kept while the key is in the left half
      · exact .inl rfl

section addr
-- The fields `step`, `zero` of `TreeAddr` as loose hypotheses, and `ha` for `root`: the induction of
-- `no_earlier_leaf` descends to child seeds `a`, whose address is some `p`, not `[]`.
variable {P}
variable {addr : Seed → Option (List Bool)}
variable (hstep : ∀ a x, addr (P.expand a x) = (addr a).map (· ++ [x]))
include hstep

theorem derives_addr {c x : Seed} (h : Derives P c x) : ∃ w, addr x = (addr c).map (· ++ w) := by
  induction h with
  | refl => exact ⟨[], by simp⟩
  | step y _ ih =>
    obtain ⟨w, hw⟩ := ih
    exact ⟨w ++ [y], by rw [hstep, hw]; cases addr c <;> simp⟩

/-- the wiped cell, and what is derived from one child of a seed of the tree, derive nothing that is
    derived from the other child -/
theorem not_derives_across (hz : addr P.zero = none) {a c x : Seed} {p : List Bool} (ha : addr a = some p)
    {b : Bool} (hc : c = P.zero ∨ Derives P (P.expand a !b) c) (hx : Derives P (P.expand a b) x) :
    ¬ Derives P c x := by
  intro h
  obtain ⟨u, hu⟩ := derives_addr hstep h
  obtain ⟨w', hw'⟩ := derives_addr hstep hx
  rw [hw', hstep, ha] at hu
  rcases hc with rfl | hc
  · simp [hz] at hu
  · obtain ⟨w, hw⟩ := derives_addr hstep hc
    simp [hw, hstep, ha] at hu

theorem no_earlier_leaf (hz : addr P.zero = none) (d : Nat) (a : Seed) (t t' : Nat) {p : List Bool}
    (ha : addr a = some p) (ht : t < 2 ^ d) (hlt : t' < t) :
    ∀ c ∈ (stateAt P d a t).seeds, ¬ Derives P c (leafSeed P d a t') := by
  induction d generalizing a t t' p with
  | zero => simp at ht; omega
  | succ d ih =>
    intro c hc
    rw [stateAt_succ, SKey.seeds, List.mem_append, List.mem_singleton] at hc
    rw [leafSeed_succ]
    rcases hc with hc | rfl
    · by_cases hs : 2 ^ d ≤ t' ↔ 2 ^ d ≤ t
      · -- both periods in the same half
        rw [decide_eq_decide.mpr hs]
        exact ih _ _ _ (p := p ++ [decide (2 ^ d ≤ t)]) (by simp [hstep, ha]) (periodInHalf_lt ht)
          (by unfold periodInHalf; split <;> split <;> omega) c hc
      · -- the key has moved to the right half, the earlier period was in the left one
        have h' : ¬ 2 ^ d ≤ t' ∧ 2 ^ d ≤ t := by omega
        rw [decide_eq_false h'.1]
        rw [decide_eq_true h'.2] at hc
        exact not_derives_across hstep hz ha (b := false) (seeds_derives P d _ _ c hc)
          (derives_leafSeed P d _ _)
    · split
      · -- the right seed, kept while the key is in the left half, where `t'` is too
        rw [decide_eq_false (by omega)]
        exact not_derives_across hstep hz ha (b := false) (.inr (.refl _)) (derives_leafSeed P d _ _)
      · -- the wiped cell
        exact not_derives_across hstep hz ha (.inl rfl) (derives_leafSeed P d _ _)

end addr

/-! ### the free instance satisfies the hypotheses (non-vacuity) -/
open GV.Model.KesSym

theorem sym_complete : ∀ s m, sym.verify (sym.pkOf s) m (sym.sign s m) = true := by
  intro s m; simp [sym, symVerify]

theorem sym_ideal : Ideal sym where
  pk_inj := by intro a b h; simpa [sym] using h
  hp_inj := by intro a b c d h; simpa [sym] using h
  exp_inj := by intro a b x y h; simpa [sym] using h
  sign_inj := by intro s s' m m' h; simpa [sym] using h
  bind := by
    intro k m σ h
    cases k <;> cases σ <;> simp [sym, symVerify] at h ⊢
    obtain ⟨h1, h2⟩ := h
    exact ⟨h1.symm, h2.symm⟩

theorem sym_treeAddr (r : Nat) : TreeAddr sym (Tm.root r) (addr r) where
  root := by simp [addr]
  step := by intro a x; simp [sym, addr]
  zero := by simp [sym, addr]

end GV.Proofs.Kes
