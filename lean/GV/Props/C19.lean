import GV.Model.Handshake
import GV.Proofs.Handshake
import GV.Lib.VersionTable
import GV.Proofs.VersionData
import GV.Gen.HandshakeSends
/-!
C19 — A client never settles on a version it did not offer.

An initiator completes a handshake only with a version number it proposed and only if the
accepted version data is valid for that version (the version's own decoder accepts it) and
carries the initiator's own network magic. Any other acceptance is a handshake failure.

`clientHandleAccept` mirrors `handshake.Client.handleAcceptVersion` after the `fix:` commit;
`clientHandleAcceptOld` is the function as it was (decoder lookup only).
-/
namespace GV.Props.C19
open GV.Model.VersionData GV.Model.Handshake

/-- The property on an acceptance, for every decoder table `lk`, every proposed map `C` (any order,
    any contents), every version number and every byte string the responder could send. -/
theorem finish_only_proposed (lk : Lookup) (C : VMap) (v : Nat) (data : Bytes) (v' : Nat) (d : VData)
    (h : clientHandleAccept lk C v data = .finished v' d) :
    v' = v ∧ v ∈ keys C ∧
    ∃ own k, lookupMap C v = some own ∧ lk v = some k ∧ decode k data = some d ∧
      d.networkMagic = own.networkMagic := by
  obtain ⟨rfl, own, k, hc, hk, hd, hm⟩ := (GV.Proofs.Handshake.clientHandleAccept_finished lk C v data v' d).mp h
  exact ⟨rfl, GV.Proofs.Handshake.mem_keys_of_lookupMap hc, own, k, hc, hk, hd, hm⟩

/-- A version that was not proposed is never settled on, whatever data comes with it. -/
theorem unproposed_fails (lk : Lookup) (C : VMap) (v : Nat) (data : Bytes) (h : v ∉ keys C) :
    clientHandleAccept lk C v data = .err "unproposed" := by
  have : lookupMap C v = none :=
    Option.not_isSome_iff_eq_none.mp fun hs => h ((GV.Proofs.Handshake.lookupMap_isSome_iff C v).mp hs)
  simp [clientHandleAccept, this]

/-- Every outcome is either `finished` (then under the conditions of `finish_only_proposed`) or a
    failure: nothing else. -/
theorem accept_outcomes (lk : Lookup) (C : VMap) (v : Nat) (data : Bytes) :
    (∃ d, clientHandleAccept lk C v data = .finished v d) ∨
    (∃ why, clientHandleAccept lk C v data = .err why) := by
  fun_cases clientHandleAccept lk C v data
  -- all four tests pass
  case case5 d hd hm => exact .inl ⟨d, rfl⟩
  -- a failed test is an `.err`
  all_goals exact .inr ⟨_, rfl⟩

/-! ### the whole message handler: acceptance, refusal, query reply -/

/-- the initiator asked for a query: some proposed entry carries the query flag -/
def proposedQuery (C : VMap) : Bool := C.any fun p => p.2.query

/-- the property on one reply of the responder: the initiator completes only with a proposed
    version whose data that version's decoder accepts and which carries the proposed magic, or —
    having asked for it — with a query result -/
def C19_full_on (lk : Lookup) (C : VMap) (msg : SMsg) : Prop :=
  match clientHandle lk C msg with
  | .finished v d => v ∈ keys C ∧ ∃ own k data, msg = .accept v data ∧ lookupMap C v = some own ∧
      lk v = some k ∧ decode k data = some d ∧ d.networkMagic = own.networkMagic
  | .queryDone _ => proposedQuery C = true
  | _ => True

/-- Full statement: for every reply a responder could send.  It is false (`C19_full_false`). -/
def C19_full : Prop := ∀ (lk : Lookup) (C : VMap) (msg : SMsg), C19_full_on lk C msg

/-- What holds: every reply except a query reply nobody asked for. -/
theorem C19_partial (lk : Lookup) (C : VMap) (msg : SMsg)
    (hx : (∃ t, msg = .queryReply t) → proposedQuery C = true) : C19_full_on lk C msg := by
  unfold C19_full_on
  cases msg with
  | accept v data =>
    simp only [clientHandle]
    rcases accept_outcomes lk C v data with ⟨d, e⟩ | ⟨why, e⟩
    · obtain ⟨_, hv, own, k, hc, hk, hd, hm⟩ := finish_only_proposed lk C v data v d e
      rw [e]
      exact ⟨hv, own, k, data, rfl, hc, hk, hd, hm⟩
    · rw [e]; trivial
  | refuse r => simp [clientHandle]
  | queryReply t => simp only [clientHandle]; exact hx ⟨t, rfl⟩

/-- Message decoding in front of the handler only adds failures: what the initiator does with a
    received message is the handler's outcome, or a decode failure. -/
theorem receive_refines (lk : Lookup) (C : VMap) (msg : SMsg) :
    clientReceive lk C msg = clientHandle lk C msg ∨ clientReceive lk C msg = .err "decode" := by
  unfold clientReceive
  split
  · left; rfl
  · right; rfl

/-- so on the receive path too, for every message, a completion is with a proposed version and a
    query result only when asked for (the decoder and magic clauses of `C19_full_on` are not restated) -/
theorem receive_partial (lk : Lookup) (C : VMap) (msg : SMsg)
    (hx : (∃ t, msg = .queryReply t) → proposedQuery C = true) :
    match clientReceive lk C msg with
    | .finished v _ => v ∈ keys C
    | .queryDone _ => proposedQuery C = true
    | _ => True := by
  rcases receive_refines lk C msg with h | h
  · rw [h]
    have := C19_partial lk C msg hx
    unfold C19_full_on at this
    cases hc : clientHandle lk C msg <;> simp_all
  · rw [h]; trivial

/-- **Recorded finding** (class `unsolicited-queryreply`): an initiator that did not ask for a
    query and is answered `QueryReply {}` completes the handshake — FinishedFunc(0, nil), no
    error — although it never proposed version 0. (`TestClientQueryReply` in the repository
    asserts this behaviour, so it is recorded, not repaired.) -/
theorem C19_witness :
    ¬ C19_full_on GV.Lib.VersionTable.lk
        [(32784, genEntry .ntc15 764824073 true false false)] (.queryReply []) := by
  have hq : proposedQuery [(32784, genEntry .ntc15 764824073 true false false)] = false := by decide
  unfold C19_full_on
  simp only [clientHandle, decodeTable, List.filterMap_nil]
  rw [hq]; simp

theorem C19_full_false : ¬ C19_full := fun h => C19_witness (h _ _ _)

/-! ### the version number on the wire -/

theorem receiveAccept_uint (lk : Lookup) (C : VMap) {ver data : Bytes} {n : Nat}
    (hn : readTagged (ver.length + 1) ver = some (Item.uint n, [])) :
    clientReceiveAccept lk C ver data = .err "decode" ∨
    n < 65536 ∧ clientReceiveAccept lk C ver data = clientHandleAccept lk C n data := by
  unfold clientReceiveAccept decodeU16
  rw [hn]
  by_cases hw : (!(wellFormedOne ver && wellFormedOne data)) = true
  · exact Or.inl (if_pos hw)
  rw [if_neg hw]
  by_cases hlt : n < 65536
  · exact Or.inr ⟨hlt, by simp only [asU16, if_pos hlt]⟩
  · exact Or.inl (by simp only [asU16, if_neg hlt])

/-- **The wire number itself must be a proposed version.** If the version item of the acceptance
    is an unsigned integer `n` (any head width, also a bignum or tagged integer) and the
    handshake completes, then it completes with exactly `n`, `n` fits 16 bits and `n` was
    proposed — a wider number is never narrowed to a proposed version. -/
theorem wire_version_literal (lk : Lookup) (C : VMap) (ver data : Bytes) (n v' : Nat) (d : VData)
    (hn : readTagged (ver.length + 1) ver = some (Item.uint n, []))
    (h : clientReceiveAccept lk C ver data = .finished v' d) :
    n = v' ∧ n < 65536 ∧ v' ∈ keys C := by
  rcases receiveAccept_uint lk C hn with e | ⟨hlt, e⟩
  · rw [e] at h; cases h
  · obtain ⟨hv, hk, _⟩ := finish_only_proposed lk C n data v' d (e ▸ h)
    exact ⟨hv.symm, hlt, hv ▸ hk⟩

/-- An acceptance whose version number does not fit 16 bits always fails — whatever its low 16
    bits are, whatever data comes with it.  Stated for the shortest head, `encodeUint n`;
    `wire_version_literal` covers every head width. -/
theorem wide_version_fails (lk : Lookup) (C : VMap) (data : Bytes) (n : Nat)
    (hw : 65536 ≤ n) (h64 : n < 18446744073709551616) :
    ∃ why, clientReceiveAccept lk C (encodeUint n) data = .err why := by
  have hn : readTagged ((encodeUint n).length + 1) (encodeUint n) = some (Item.uint n, []) := by
    simpa using GV.Proofs.VersionData.readTagged_encodeUint (encodeUint n).length n h64 []
  rcases receiveAccept_uint lk C (data := data) hn with e | ⟨hlt, _⟩
  · exact ⟨_, e⟩
  · omega

/-- Regenerated tie (go/ast of protocol/handshake on every run): the version fields of the
    handshake messages and refusal errors are 16-bit, the FinishedFunc callback takes a uint16,
    and handleAcceptVersion contains no integer conversion (so no narrowing), one lookup in the
    proposed map, one magic comparison and one FinishedFunc call. -/
theorem version_fields_are_uint16 :
    (∀ e ∈ [("MsgAcceptVersion", "Version", "uint16"),
            ("MsgProposeVersions", "VersionMap", "map[uint16]cbor.RawMessage"),
            ("MsgQueryReply", "VersionMap", "map[uint16]cbor.RawMessage"),
            ("VersionMismatchError", "SupportedVersions", "[]uint16"),
            ("DecodeError", "Version", "uint16"), ("RefusedError", "Version", "uint16")],
        e ∈ GV.Gen.HandshakeSends.fieldTypes) ∧
    GV.Gen.HandshakeSends.finishedFuncType = "func(CallbackContext, uint16, protocol.VersionData) error" ∧
    GV.Gen.HandshakeSends.clientAcceptIntConversions = 0 ∧
    GV.Gen.HandshakeSends.clientAcceptLooksUpProposed = 1 ∧
    GV.Gen.HandshakeSends.clientAcceptMagicComparisons = 1 ∧
    GV.Gen.HandshakeSends.clientAcceptFinishCalls = 1 := by
  refine ⟨?_, rfl, rfl, rfl, rfl, rfl⟩
  simp only [List.forall_mem_cons, List.not_mem_nil, false_imp_iff, implies_true, and_true]
  simp only [GV.Gen.HandshakeSends.fieldTypes, List.mem_cons, true_or, or_true, and_self]

/-- Non-vacuity: 2^16 + 13 in a 4-byte head, sent to an initiator that proposed 13, fails. -/
example : clientReceiveAccept GV.Lib.VersionTable.lk [(13, genEntry .ntn13 1 true false false)]
    (encodeUint 65549) [0x84, 0x01, 0xf4, 0x00, 0xf4] = .err "decode" := by decide

/-- … and the same data with the literal 13 in an 8-byte head completes. -/
example : clientReceiveAccept GV.Lib.VersionTable.lk [(13, genEntry .ntn13 1 true false false)]
    [27, 0, 0, 0, 0, 0, 0, 0, 13] [0x84, 0x01, 0xf4, 0x00, 0xf4] =
    .finished 13 { kind := .ntn13, magic := 1, dm := false, ps := 0, q := false } := by decide

/-- The defect that was repaired, on the regenerated tables: an NtC initiator with the mainnet
    magic that proposed the whole NtC table, answered `AcceptVersion 13 [42,false,0,false]`.
    The old function settles on version 13 with magic 42; the repaired one fails. -/
theorem old_code_witness :
    let C : VMap := (GV.Gen.Versions.mapNtC.filterMap fun p =>
      (Kind.ofNat? p.2).map fun k => (p.1, genEntry k 764824073 true false false))
    let data : Bytes := [0x84, 0x18, 0x2a, 0xf4, 0x00, 0xf4]
    clientHandleAcceptOld GV.Lib.VersionTable.lk 13 data =
        .finished 13 { kind := .ntn13, magic := 42, dm := false, ps := 0, q := false } ∧
    13 ∉ keys C ∧
    clientHandleAccept GV.Lib.VersionTable.lk C 13 data = .err "unproposed" := by
  decide

/-- Non-vacuity: an honest acceptance is settled on. -/
example :
    clientHandleAccept GV.Lib.VersionTable.lk
      [(32784, genEntry .ntc15 764824073 true false false)] 32784 [0x82, 0x1a, 0x2d, 0x96, 0x4a, 0x09, 0xf4]
      = .finished 32784 { kind := .ntc15, magic := 764824073 } := by decide

/-- Non-vacuity of the magic clause: same acceptance with a foreign magic fails. -/
example :
    clientHandleAccept GV.Lib.VersionTable.lk
      [(32784, genEntry .ntc15 764824073 true false false)] 32784 [0x82, 0x18, 0x2a, 0xf4]
      = .err "magic" := by decide

end GV.Props.C19
