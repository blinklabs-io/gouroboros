import GV.Model.Muxer
import GV.Proofs.Muxer
import GV.Gen.GoLite
import GV.Proofs.GoLite
/-!
C09 — The muxer delivers each byte stream intact to the right endpoint.

Segments written by any number of concurrently sending mini-protocols reach the peer with
their payloads unmodified, in per-protocol send order, and are delivered only to the
receiver registered for that protocol number and direction, regardless of how the
underlying connection fragments the byte stream. No segment carries more than 65535
payload bytes, and a received zero-length segment or a segment for an unregistered
protocol closes the connection with an error.
-/
namespace GV.Props.C09
open GV.Model.Muxer GV.Proofs.Muxer

/-- Fragmentation invariance: whatever chunks the connection's reads return, the
    incremental reader produces the reference parse of the concatenated stream. -/
theorem frag_invariant (chunks : List Bytes) :
    (feedAll RState.init chunks).result = parse chunks.flatten := by
  have h : feedAll RState.init chunks = feed RState.init chunks.flatten := by
    unfold feedAll feed
    rw [List.foldl_flatten]
  rw [h]
  have := feed_eq_parse chunks.flatten []
  simpa [RState.init, Phase.init] using this

/-- Two fragmentations of the same stream are indistinguishable. -/
theorem frag_irrelevant (c1 c2 : List Bytes) (h : c1.flatten = c2.flatten) (cfg : Cfg) :
    run cfg c1 = run cfg c2 := by
  simp only [run, frag_invariant, h]

/-- In particular the result for any fragmentation is the result for the unfragmented
    stream (the driver uses this to run the model once per stream instead of once per chunk). -/
theorem run_single (cfg : Cfg) (chunks : List Bytes) : run cfg chunks = run cfg [chunks.flatten] :=
  frag_irrelevant chunks [chunks.flatten] (by simp) cfg

/-- Framing round-trip: what `Send` writes for well-formed segments parses back to exactly
    those segments (payload bytes, protocol id field, order), ending at a clean boundary. -/
theorem roundtrip (segs : List Seg) (h : ∀ s ∈ segs, SegOk s) :
    parse (segs.flatMap encSeg) = (segs, End.eofHeader) := by
  have := parse_flatMap segs [] h
  simpa [parse_nil] using this

theorem newSegment_eq_some {ts id : Nat} {payload : Bytes} {r : Bool} {s : Seg} :
    newSegment ts id payload r = some s ↔
      payload.length ≤ 65535 ∧ s = ⟨ts, if r then (id + 32768) % 65536 else id, payload⟩ := by
  unfold newSegment maxPayload respFlag GV.Gen.Limits.segmentMaxPayloadLength
    GV.Gen.Limits.segmentProtocolIdResponseFlag
  by_cases h : payload.length > 65535
  · rw [if_pos h]; exact ⟨nofun, fun ⟨h', _⟩ => by omega⟩
  · rw [if_neg h, Option.some.injEq, eq_comm]; exact ⟨fun e => ⟨by omega, e⟩, fun e => e.2⟩

/-- `NewSegment` length guard: no segment with more than 65535 payload bytes is ever built,
    so the 16-bit length field always holds the true length. -/
theorem newSegment_len_guard (ts pid : Nat) (payload : Bytes) (r : Bool) :
    (payload.length > 65535 → newSegment ts pid payload r = none) ∧
    (∀ s, newSegment ts pid payload r = some s → s.payload = payload ∧ s.payload.length ≤ 65535) := by
  refine ⟨fun h => Option.eq_none_iff_forall_ne_some.mpr fun s hs => ?_, fun s hs => ?_⟩
  · have := (newSegment_eq_some.mp hs).1; omega
  · obtain ⟨hl, rfl⟩ := newSegment_eq_some.mp hs; exact ⟨rfl, hl⟩

/-- Wire protocol-id field for a receiver key: the response bit is set exactly for
    segments addressed to an initiator. -/
def pidOf (k : Nat × Role) : Nat := if k.2 = Role.initiator then k.1 + 32768 else k.1

/-- What `NewSegment` puts in the header is `pidOf` of the peer's receiver key. -/
theorem newSegment_pid {ts : Nat} {k : Nat × Role} {payload : Bytes} {s : Seg} (hk : k.1 < 32768)
    (h : newSegment ts k.1 payload (decide (k.2 = .initiator)) = some s) : s.pid = pidOf k := by
  obtain ⟨_, rfl⟩ := newSegment_eq_some.mp h
  unfold pidOf
  by_cases hr : k.2 = .initiator <;> simp [hr]
  omega

def modeAllows (mode : Nat) (r : Role) : Prop :=
  ¬ (mode = 1 ∧ r = Role.responder) ∧ ¬ (mode = 2 ∧ r = Role.initiator)

theorem lookup_exact (c : Cfg) (id k : Nat) (role r : Role) (h : lookup c id role = .deliver k r) :
    hasKey c.regs k r = true ∧ r = role ∧
    (k = id ∨ (k = protocolUnknown ∧ hasId c.regs id = false)) := by
  revert h
  fun_cases lookup c id role
  -- `id` has a receiver map and `role` an entry in it
  case case1 _ hk =>
    intro h
    cases h
    exact ⟨hk, rfl, .inl rfl⟩
  -- no map for `id`; `ProtocolUnknown` has one, with an entry for `role`
  case case3 hid _ hk =>
    intro h
    cases h
    exact ⟨hk, rfl, .inr ⟨rfl, by simpa using hid⟩⟩
  -- a map without an entry for `role`, or no map at all: an error
  all_goals nofun

theorem lookup_err {c : Cfg} {id : Nat} {role : Role} {e : End} (h : lookup c id role = .err e) :
    e = .unknownProto id := by
  revert h
  fun_cases lookup c id role
  -- the two deliveries
  case case1 => nofun
  case case3 => nofun
  -- the error branches
  all_goals exact fun h => (Routed.err.inj h).symm

theorem route_deliver_iff {c : Cfg} {pid k : Nat} {r : Role} :
    route c pid = .deliver k r ↔
      modeAllows c.mode (roleOf pid) ∧ lookup c (getProtocolId pid) (roleOf pid) = .deliver k r := by
  unfold modeAllows roleOf
  fun_cases route c pid
  -- mode 1 and a request: refused
  case case1 h => simp [h]
  -- mode 2 and a response: refused
  case case2 _ h => simp [h]
  -- neither: `route` is `lookup`
  case case3 h1 h2 => cases hr : isResponse pid <;> simp_all [roleOf]

/-- Routing is exact: a segment is delivered only to a registered receiver whose role is
    the one the response bit designates, only in a diffusion mode that allows that
    direction, and only under its own protocol number (or the registered catch-all
    `ProtocolUnknown` receiver when the number has no receiver map at all). -/
theorem routing_exact (c : Cfg) (pid k : Nat) (r : Role) (h : route c pid = .deliver k r) :
    hasKey c.regs k r = true ∧ r = roleOf pid ∧ modeAllows c.mode r ∧
    (k = getProtocolId pid ∨
      (k = protocolUnknown ∧ hasId c.regs (getProtocolId pid) = false)) := by
  obtain ⟨hm, h⟩ := route_deliver_iff.mp h
  obtain ⟨hk, rfl, hid⟩ := lookup_exact c _ k _ r h
  exact ⟨hk, rfl, hm, hid⟩

theorem route_err_ne_eof (c : Cfg) (pid : Nat) (e : End) (h : route c pid = .err e) : e ≠ End.eofHeader := by
  revert h
  fun_cases route c pid <;> intro h
  -- the two direction errors
  case case1 => cases h; nofun
  case case2 => cases h; nofun
  -- neither applies: the error is `lookup`'s
  case case3 => cases lookup_err h; nofun

theorem pidOf_key (k : Nat × Role) (hk : k.1 < 32768) :
    (getProtocolId (pidOf k), roleOf (pidOf k)) = k := by
  obtain ⟨id, r⟩ := k
  simp only at hk
  unfold getProtocolId roleOf isResponse pidOf respFlag GV.Gen.Limits.segmentProtocolIdResponseFlag
  cases r
  · simp
  · have : ¬ (id ≥ 32768) := by omega
    simp [this]

theorem hasKey_hasId (m : RegMap) (id : Nat) (r : Role) (h : hasKey m id r = true) :
    hasId m id = true := by
  unfold hasKey at h
  unfold hasId
  cases hr : rolesOf m id with
  | none => simp [hr] at h
  | some rs => rfl

/-- Conversely a registered receiver gets every segment addressed to it when the mode
    allows the direction. -/
theorem routing_complete (c : Cfg) (id : Nat) (r : Role) (hid : id < 32768)
    (hreg : hasKey c.regs id r = true) (hm : modeAllows c.mode r) :
    route c (pidOf (id, r)) = .deliver id r := by
  obtain ⟨hk1, hk2⟩ := Prod.mk.inj (pidOf_key (id, r) hid)
  rw [route_deliver_iff, hk1, hk2, lookup, if_pos (hasKey_hasId _ _ _ hreg), if_pos hreg]
  exact ⟨hm, rfl⟩

/-- A received zero-length segment closes the connection with an error, whatever follows
    and however the stream is fragmented; segments before it are unaffected. -/
theorem zero_len_closes (segs : List Seg) (h : ∀ s ∈ segs, SegOk s) (ts pid : Nat) (tail : Bytes)
    (hts : ts < 4294967296) (hpid : pid < 65536)
    (chunks : List Bytes)
    (hc : chunks.flatten = segs.flatMap encSeg ++ (be32 ts ++ be16 pid ++ be16 0 ++ tail)) :
    (feedAll RState.init chunks).result = (segs, End.zeroLen) := by
  rw [frag_invariant, hc, parse_flatMap segs _ h, parse_append _ tail rfl, hdrOf_enc ts pid 0 hts hpid (by omega)]
  simp

theorem routeAll_err_ne_eof (c : Cfg) (l : List Seg) (e : End) :
    (routeAll c l).2 = some e → e ≠ End.eofHeader := by
  fun_induction routeAll c l with
  | case1 => nofun                   -- no segment
  | case2 s rest e1 hr =>            -- `route` refuses the first segment
    intro h; cases h; exact route_err_ne_eof c s.pid _ hr
  | case3 s rest k r hr x ih =>      -- the first segment is delivered
    exact ih

/-- A zero-length halt ends `run` with an error (never a clean end). -/
theorem run_zero_len_is_error (c : Cfg) (chunks : List Bytes)
    (h : ((feedAll RState.init chunks).result).2 = End.zeroLen) :
    (run c chunks).2 ≠ End.eofHeader := by
  unfold run
  simp only
  cases hra : routeAll c (feedAll RState.init chunks).result.1 with
  | mk ds oe =>
    cases oe with
    | some e => exact routeAll_err_ne_eof c _ e (by rw [hra])
    | none => simp [h]

/-- A segment for an unregistered protocol (no receiver map for its number, no catch-all)
    is never delivered: it yields the `unknownProto` error, or a direction error. -/
theorem unregistered_closes (c : Cfg) (pid : Nat)
    (h1 : hasId c.regs (getProtocolId pid) = false) (h2 : hasId c.regs protocolUnknown = false) :
    ∃ e, route c pid = .err e := by
  cases h : route c pid with
  | err e => exact ⟨e, rfl⟩
  | deliver k r =>
    obtain ⟨hk, _, _, rfl | ⟨rfl, _⟩⟩ := routing_exact c pid k r h <;>
      simp [hasKey_hasId _ _ _ hk] at h1 h2

/-- A protocol number that has (or once had) a receiver but none for this role is an error
    too: there is no fall back to the catch-all. -/
theorem wrong_role_closes (c : Cfg) (pid : Nat)
    (h : hasKey c.regs (getProtocolId pid) (roleOf pid) = false)
    (h1 : hasId c.regs (getProtocolId pid) = true) :
    ∃ e, route c pid = .err e := by
  cases hr : route c pid with
  | err e => exact ⟨e, rfl⟩
  | deliver k r =>
    obtain ⟨hk, rfl, _, rfl | ⟨_, h0⟩⟩ := routing_exact c pid k r hr
    · simp [hk] at h
    · simp [h0] at h1

/-! ### Registrations are per (protocol, role); `UnregisterProtocol` removes exactly one -/

theorem rolesOf_setRoles (m : RegMap) (id id' : Nat) (rs : List Role) :
    rolesOf (setRoles m id rs) id' = if id' = id then some rs else rolesOf m id' := by
  fun_induction setRoles m id rs <;> grind [rolesOf]

theorem rolesOf_unregister (m : RegMap) (id id' : Nat) (r : Role) :
    rolesOf (unregister m id r) id' =
      if id' = id then (rolesOf m id).map (·.filter (· != r)) else rolesOf m id' := by
  unfold unregister
  cases hr : rolesOf m id with
  | none => by_cases h : id' = id <;> simp [h, hr]
  | some rs =>
    by_cases hc : r ∈ rs
    · simp [hc, rolesOf_setRoles]
    · have : rs.filter (· != r) = rs := List.filter_eq_self.mpr fun x hx => by
        simp only [bne_iff_ne, ne_eq]; rintro rfl; exact hc hx
      by_cases h : id' = id <;> simp [hc, h, hr, this]

theorem rolesOf_register (m : RegMap) (id id' : Nat) (r : Role) :
    rolesOf (register m id r) id' =
      if id' = id then some (((rolesOf m id).getD []).insert r) else rolesOf m id' := by
  unfold register
  cases hr : rolesOf m id with
  | none => simp [rolesOf_setRoles]
  | some rs =>
    by_cases hc : r ∈ rs
    · by_cases h : id' = id <;> simp [hc, h, hr]
    · simp [hc, rolesOf_setRoles]

/-- `UnregisterProtocol(id, role)` removes that receiver … -/
theorem unregister_removes (m : RegMap) (id : Nat) (r : Role) :
    hasKey (unregister m id r) id r = false := by
  simp only [hasKey, rolesOf_unregister, if_pos]
  cases rolesOf m id <;> simp

/-- … and nothing else: every other (protocol, role) receiver — in particular the other role
    of the same protocol — stays registered or unregistered exactly as it was. -/
theorem unregister_keeps_others (m : RegMap) (id id' : Nat) (r r' : Role)
    (hne : id' ≠ id ∨ r' ≠ r) :
    hasKey (unregister m id r) id' r' = hasKey m id' r' := by
  simp only [hasKey, rolesOf_unregister]
  by_cases hid : id' = id
  · subst hid
    have hrr : r' ≠ r := hne.resolve_left (fun h => h rfl)
    rw [if_pos rfl]
    cases rolesOf m id' <;> simp [hrr]
  · rw [if_neg hid]

/-- The protocol's receiver map itself survives `UnregisterProtocol`: afterwards a segment
    for the unregistered role is an error even when a catch-all receiver exists. -/
theorem unregister_keeps_id (m : RegMap) (id id' : Nat) (r : Role) :
    hasId (unregister m id r) id' = hasId m id' := by
  simp only [hasId, rolesOf_unregister]
  by_cases hid : id' = id
  · subst hid; rw [if_pos rfl]; cases rolesOf m id' <;> rfl
  · rw [if_neg hid]

theorem unregistered_role_closes (mode : Nat) (m : RegMap) (id : Nat) (r : Role)
    (hid : id < 32768) (hwas : hasId m id = true) :
    ∃ e, route ⟨mode, unregister m id r⟩ (pidOf (id, r)) = .err e := by
  have hk := pidOf_key (id, r) hid
  simp only [Prod.mk.injEq] at hk
  apply wrong_role_closes
  · simp only [hk.1, hk.2]; exact unregister_removes m id r
  · simp only [hk.1]; rw [unregister_keeps_id]; exact hwas

theorem register_adds (m : RegMap) (id : Nat) (r : Role) : hasKey (register m id r) id r = true := by
  simp [hasKey, rolesOf_register]

theorem register_keeps_others (m : RegMap) (id id' : Nat) (r r' : Role)
    (hne : id' ≠ id ∨ r' ≠ r) :
    hasKey (register m id r) id' r' = hasKey m id' r' := by
  simp only [hasKey, rolesOf_register]
  by_cases hid : id' = id
  · subst hid
    have hrr : r' ≠ r := hne.resolve_left (fun h => h rfl)
    rw [if_pos rfl]
    cases rolesOf m id' <;> simp [hrr]
  · rw [if_neg hid]

/-- **The machine with run-time registration changes, restricted to reads, is `run`.** Hence
    `delivery_intact`, `frag_irrelevant`, … hold verbatim for `runActs` on a schedule of reads
    alone, from the initial state with the registrations `c.regs`.  (For a stretch of reads after
    a registration change there is `act_reg_unreg_keep` below; no theorem joins the two.) -/
theorem runActs_data (c : Cfg) (chunks : List Bytes) :
    runActs c.mode c.regs (chunks.map Act.data) = run c chunks := by
  have hinit : MState.init c.regs = mstateOf c RState.init := by
    simp [mstateOf, MState.init, RState.init, routeAll, Phase.init]
  unfold runActs
  rw [hinit, fold_data_mstateOf c chunks RState.init]
  unfold run mstateOf RState.result
  simp only
  cases hra : routeAll c (feedAll RState.init chunks).rout.reverse with
  | mk ds oe =>
    cases oe with
    | some e => simp
    | none =>
      by_cases hP : (feedAll RState.init chunks).phase = Phase.halted
      · simp [hP, endOf]
      · simp [hP]

/-- Registration changes do not touch what has been read or delivered. -/
theorem act_reg_unreg_keep (mode : Nat) (s : MState) (id : Nat) (r : Role) :
    (MState.act mode s (.unreg id r)).rout = s.rout ∧ (MState.act mode s (.unreg id r)).phase = s.phase ∧
    (MState.act mode s (.reg id r)).rout = s.rout ∧ (MState.act mode s (.reg id r)).phase = s.phase := by
  simp [MState.act]

/-- **Delivery theorem.** `keys[i]` is the peer's receiver for the i-th sending protocol and
    `ls[i]` the segments it sends, in order. For EVERY interleaving `w` of the senders
    (every schedule of goroutines serialised by the send mutex) and EVERY fragmentation
    `chunks` of the resulting byte stream, each registered receiver gets exactly its own
    protocol's payloads, unmodified and in send order, and the stream ends cleanly. -/
theorem delivery_intact (c : Cfg) (keys : List (Nat × Role)) (ls : List (List Seg))
    (w : List Seg) (chunks : List Bytes)
    (hlen : ls.length = keys.length) (hnd : keys.Nodup)
    (hid : ∀ k ∈ keys, k.1 < 32768)
    (hreg : ∀ k ∈ keys, hasKey c.regs k.1 k.2 = true ∧ modeAllows c.mode k.2)
    (hseg : ∀ (i : Nat) (l : List Seg) (k : Nat × Role), ls[i]? = some l → keys[i]? = some k →
      ∀ s ∈ l, SegOk s ∧ s.pid = pidOf k)
    (hi : Interleaving ls w)
    (hc : chunks.flatten = w.flatMap encSeg) :
    (run c chunks).2 = End.eofHeader ∧
    ∀ (i : Nat) (l : List Seg) (k : Nat × Role), ls[i]? = some l → keys[i]? = some k →
      deliveredTo k (run c chunks).1 = l.map (·.payload) := by
  have hkey : ∀ j l, ls[j]? = some l → ∃ k, keys[j]? = some k ∧ ∀ s ∈ l, SegOk s ∧ s.pid = pidOf k :=
    fun j l hl =>
      have hj : j < keys.length := hlen ▸ (List.getElem?_eq_some_iff.mp hl).1
      ⟨keys[j], List.getElem?_eq_getElem hj, hseg j l _ hl (List.getElem?_eq_getElem hj)⟩
  have hw : ∀ s ∈ w, ∃ k ∈ keys, SegOk s ∧ s.pid = pidOf k :=
    interleaving_forall hi fun i l hl s hs => by
      obtain ⟨k, hk, h⟩ := hkey i l hl
      exact ⟨k, List.mem_of_getElem? hk, h s hs⟩
  have hparse : (feedAll RState.init chunks).result = (w, End.eofHeader) := by
    rw [frag_invariant, hc]
    exact roundtrip w (fun s hs => by obtain ⟨k, _, h, _⟩ := hw s hs; exact h)
  have hroute : routeAll c w =
      (w.map (fun s => ((getProtocolId s.pid, roleOf s.pid), s.payload)), none) := by
    apply routeAll_all_deliver c w (fun s => (getProtocolId s.pid, roleOf s.pid))
    intro s hs
    obtain ⟨k, hk, _, hp⟩ := hw s hs
    have := routing_complete c k.1 k.2 (hid k hk) (hreg k hk).1 (hreg k hk).2
    rw [hp, pidOf_key k (hid k hk)]
    exact this
  have hrun : run c chunks =
      (w.map (fun s => ((getProtocolId s.pid, roleOf s.pid), s.payload)), End.eofHeader) := by
    unfold run
    simp only [hparse, hroute]
  rw [hrun]
  refine ⟨rfl, ?_⟩
  intro i l k hl hk
  -- per-protocol order from the interleaving: a segment's receiver key is its sender's key,
  -- and the keys are distinct
  have hf := interleaving_filter (fun s : Seg => (getProtocolId s.pid, roleOf s.pid) == k) hi i
    (fun j l' hl' s hs => by
      obtain ⟨k', hk', h⟩ := hkey j l' hl'
      rw [(h s hs).2, pidOf_key k' (hid k' (List.mem_of_getElem? hk'))]
      by_cases hji : j = i
      · subst hji; cases hk'.symm.trans hk; simp
      · have : k' ≠ k := fun e =>
          hji ((List.getElem?_inj (List.getElem?_eq_some_iff.mp hk').1 hnd).mp (by rw [hk', hk, e]))
        simp [this, hji]) l hl
  unfold deliveredTo
  rw [List.filter_map, List.map_map]
  subst hf
  rfl

/-! ### Non-vacuity -/

/-- Two segments for two receivers, the stream cut in the middle of a header and of a
    payload: both are delivered, each to its own receiver. -/
example : run ⟨3, [(2, [.responder]), (3, [.initiator])]⟩
      [[0, 0, 0, 0, 0, 2], [0, 1, 7, 0, 0, 0, 0, 0x80, 3, 0, 2], [8, 9]] =
    ([((2, .responder), [7]), ((3, .initiator), [8, 9])], End.eofHeader) := by decide

/-- A zero-length header after a good segment: the good one is delivered, then the error. -/
example : run ⟨3, [(2, [.responder])]⟩ [[0, 0, 0, 0, 0, 2, 0, 1, 7, 0, 0, 0, 0, 0, 2, 0, 0, 5]] =
    ([((2, .responder), [7])], End.zeroLen) := by decide

-- Unregistered protocol / wrong direction / initiator-only mode.
set_option maxRecDepth 8192 in
example : (run ⟨3, [(2, [.responder])]⟩ [[0, 0, 0, 0, 0, 3, 0, 1, 7]]).2 = End.unknownProto 3 := by decide
set_option maxRecDepth 8192 in
example : (run ⟨3, [(2, [.responder])]⟩ [[0, 0, 0, 0, 0x80, 2, 0, 1, 7]]).2 = End.unknownProto 2 := by decide
example : (run ⟨1, [(2, [.responder])]⟩ [[0, 0, 0, 0, 0, 2, 0, 1, 7]]).2 = End.fromInitiator := by decide

/-- Unregistering the responder of protocol 2 while the connection runs: the initiator of the
    same protocol keeps receiving; a later segment for the removed role is an error. -/
example : runActs 3 [(2, [.initiator, .responder])]
      [.data [0, 0, 0, 0, 0, 2, 0, 1, 1], .unreg 2 .responder, .data [0, 0, 0, 0, 0x80, 2, 0, 1, 2]] =
    ([((2, .responder), [1]), ((2, .initiator), [2])], End.eofHeader) := by decide

set_option maxRecDepth 8192 in
example : runActs 3 [(2, [.initiator, .responder])]
      [.unreg 2 .responder, .data [0, 0, 0, 0, 0x80, 2, 0, 1, 2, 0, 0, 0, 0, 0, 2, 0, 1, 1]] =
    ([((2, .initiator), [2])], End.unknownProto 2) := by decide

/-- The hypotheses of `delivery_intact` are met by a concrete two-sender interleaving. -/
example : ∃ (w : List Seg),
    Interleaving [[(⟨0, 2, [1]⟩ : Seg), ⟨0, 2, [2]⟩], [⟨0, 32771, [9]⟩]] w ∧
    w = [⟨0, 2, [1]⟩, ⟨0, 32771, [9]⟩, ⟨0, 2, [2]⟩] ∧
    pidOf (2, Role.responder) = 2 ∧ pidOf (3, Role.initiator) = 32771 := by
  refine ⟨_, ?_, rfl, by decide, by decide⟩
  refine Interleaving.pick _ 0 (⟨0, 2, [1]⟩ : Seg) [⟨0, 2, [2]⟩] _ rfl ?_
  refine Interleaving.pick _ 1 (⟨0, 32771, [9]⟩ : Seg) [] _ rfl ?_
  refine Interleaving.pick _ 0 (⟨0, 2, [2]⟩ : Seg) [] _ rfl ?_
  exact Interleaving.done _ (by simp)

example : newSegment 0 2 (List.replicate 65535 0) true = some ⟨0, 32770, List.replicate 65535 0⟩ ∧
    newSegment 0 2 (List.replicate 65536 0) true = none := by
  unfold newSegment maxPayload respFlag GV.Gen.Limits.segmentMaxPayloadLength
    GV.Gen.Limits.segmentProtocolIdResponseFlag
  simp only [List.length_replicate]
  constructor
  · rw [if_neg (by omega)]; rfl
  · rw [if_pos (by omega)]

/-! ### Regenerated tie: the header helpers translated from muxer/segment.go -/

theorem and_flag (pid : Nat) : pid &&& 32768 = if pid / 32768 % 2 = 1 then 32768 else 0 := by
  apply Nat.eq_of_testBit_eq
  intro i
  rw [Nat.testBit_and, show (32768 : Nat) = 2 ^ 15 from rfl, Nat.testBit_two_pow]
  by_cases hi : 15 = i
  · subst hi
    by_cases h : pid / 2 ^ 15 % 2 = 1 <;> simp [Nat.testBit_eq_decide_div_mod_eq, h]
  · by_cases h : pid / 2 ^ 15 % 2 = 1 <;> simp [hi, h, Nat.testBit_two_pow_of_ne hi]

/-- `ProtocolId & 0x8000` as the translated Go code computes it, for a 16-bit field. -/
theorem and_flag_lt (pid : Nat) (h : pid < 65536) :
    (pid : Int).toNat &&& (32768 : Int).toNat = if pid ≥ 32768 then 32768 else 0 := by
  have e : (pid / 32768 % 2 = 1) = (pid ≥ 32768) := propext (by omega)
  simp only [Int.toNat_natCast, show (32768 : Int).toNat = 32768 from rfl, and_flag, e]

theorem gen_isResponse_eq (pid : Nat) (h : pid < 65536) :
    GV.Gen.GoLite.segIsResponse (pid : Int) = isResponse pid := by
  unfold GV.Gen.GoLite.segIsResponse isResponse respFlag GV.Gen.Limits.segmentProtocolIdResponseFlag
  rw [and_flag_lt pid h]
  by_cases hp : pid ≥ 32768 <;> simp [hp]

theorem gen_isRequest_eq (pid : Nat) (h : pid < 65536) :
    GV.Gen.GoLite.segIsRequest (pid : Int) = isRequest pid := by
  unfold GV.Gen.GoLite.segIsRequest isRequest respFlag GV.Gen.Limits.segmentProtocolIdResponseFlag
  rw [and_flag_lt pid h]
  by_cases hp : pid ≥ 32768
  · simp [hp, Nat.not_lt.mpr hp]
  · simp [hp, Nat.lt_of_not_ge hp]

theorem gen_getProtocolId_eq (pid : Nat) (h : pid < 65536) :
    GV.Gen.GoLite.segGetProtocolId (pid : Int) = (getProtocolId pid : Int) := by
  unfold GV.Gen.GoLite.segGetProtocolId getProtocolId respFlag GV.Gen.Limits.segmentProtocolIdResponseFlag
  by_cases hp : pid ≥ 32768
  · have h1 : (pid : Int) ≥ 32768 := by omega
    rw [if_pos (by simpa using h1), if_pos hp, GV.Proofs.GoLite.wrapU_of_lt (by omega) (by omega)]
    omega
  · have h1 : ¬ ((pid : Int) ≥ 32768) := by omega
    rw [if_neg (by simpa using h1), if_neg hp]

end GV.Props.C09
