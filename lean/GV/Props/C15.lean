import GV.Model.Shutdown
import GV.Proofs.StepSystem
/-!
C15 — No call hangs and nothing leaks, whatever the peer does (level: partial).

Proved, for the request/response rendezvous all blocking client calls share
(`GV.Model.Shutdown`) and **every** peer behaviour (any sequence of right-kind,
wrong-kind and surplus replies and junk, ended by the disconnect):
* `call_always_returns`: the call returns a result or an error;
* `nothing_left_behind`: no handler stays blocked and no caller stays blocked;
* `ok_only_for_own_kind`: it succeeds only if a reply of the pending kind came
  (`own_reply_first_succeeds`: and it does when that reply comes first);
* `stop_always_returns`: the client's own `Stop()` returns, also after a flood of surplus
  messages; `unregister_completes` (the muxer's side of it, model `MSt`): `UnregisterProtocol`
  gets through.
The code before each repair is refuted by a concrete witness
(`never_closed_channel_witness`: peer-sharing; `collapsed_busy_witness`:
local-tx-monitor; both reproduced on the real code; `parked_readloop_witness`,
`old_muxer_deadlock_witness`: the muxer, `unregisterBlocks` / `MSt.init false`).

Exercised only (not theorems): `Connection.Close` returning, `ErrorChan` being
closed and the absence of library goroutines afterwards — measured by the
harness on every op (runtime behaviour of the Go scheduler and of net.Conn).
-/
namespace GV.Props.C15
open GV.Model.Shutdown

theorem step_unblocked (s : St) (e : PeerEv) (h : s.handlerBlocked = false) :
    (step fixed s e).handlerBlocked = false := by
  fun_cases step fixed s e
  -- a reply of another kind where all kinds share one Busy state (the only branch that blocks a
  -- handler): `fixed` has one Busy state per kind
  case case5 hk => exact absurd rfl hk
  all_goals exact h

/-- invariant of the repaired code: no handler is ever blocked -/
theorem never_blocked (kind : Nat) (evs : List PeerEv) :
    (evs.foldl (step fixed) (St.init kind)).handlerBlocked = false :=
  StepSystem.foldl_invariant (P := fun s => s.handlerBlocked = false) evs
    (fun s e _ => step_unblocked s e) rfl

/-- Whatever the peer does, once the connection has ended the call has returned. -/
theorem call_always_returns (kind : Nat) (evs : List PeerEv) : (outcome fixed kind evs).isSome = true := by
  unfold outcome
  rw [List.foldl_append]
  simp only [List.foldl_cons, List.foldl_nil]
  have hb := never_blocked kind evs
  generalize (evs.foldl (step fixed) (St.init kind)) = s at hb
  simp only [step, finish]
  cases s.caller with
  | returned b => simp
  | waiting => simp [fixed, doneChanCloses, hb]

/-- … and neither a handler nor the caller is left blocked: no goroutine of the call survives. -/
theorem nothing_left_behind (kind : Nat) (evs : List PeerEv) : leaks fixed kind evs = false := by
  have h1 := call_always_returns kind evs
  unfold outcome at h1
  unfold leaks
  have hb := never_blocked kind (evs ++ [PeerEv.close])
  simp only [hb, Bool.false_or]
  cases hf : finish fixed ((evs ++ [PeerEv.close]).foldl (step fixed) (St.init kind)) with
  | none => rw [hf] at h1; simp at h1
  | some b => simp

/-- The protocol client's own `Stop()` returns whatever the peer did before — also after a
    flood of surplus messages has parked the muxer's read loop. -/
theorem stop_always_returns (kind : Nat) (evs : List PeerEv) : stopReturns fixed kind evs = true := by
  have hb := never_blocked kind (evs ++ [PeerEv.close])
  unfold stopReturns
  simp only [hb, Bool.not_false, Bool.and_true]
  simp [fixed]

/-- the muxer before its repair: the call is answered, surplus messages park the read loop,
    `Stop()` blocks in UnregisterProtocol — and the disconnect is never noticed -/
theorem parked_readloop_witness :
    stopReturns { selectsDone := true, perKindStates := true, unregisterBlocks := true } 0 [.reply 0, .flood] = false ∧
    stopReturns fixed 0 [.reply 0, .flood] = true := by decide

theorem step_caller (cfg : Cfg) (s : St) (e : PeerEv) :
    (step cfg s e).pendingKind = s.pendingKind ∧
    ((step cfg s e).caller = s.caller ∨ (s.caller = .waiting ∧ e = .reply s.pendingKind)) := by
  fun_cases step cfg s e
  -- a waiting caller, the reply of the pending kind
  case case3 hc => exact ⟨rfl, .inr ⟨hc, rfl⟩⟩
  all_goals exact ⟨rfl, .inl rfl⟩

/-- The call succeeds only if the peer actually sent a reply of the pending kind. -/
theorem ok_only_for_own_kind (kind : Nat) (evs : List PeerEv) (h : outcome fixed kind evs = some true) :
    PeerEv.reply kind ∈ evs := by
  -- until that reply comes the caller waits or has given up
  have hP := StepSystem.foldl_invariant (step := step fixed) evs
    (P := fun s => s.pendingKind = kind ∧ (s.caller = .returned true → PeerEv.reply kind ∈ evs))
    (fun s e he ⟨hk, hc⟩ => by
      obtain ⟨h1, h2 | ⟨_, h2⟩⟩ := step_caller fixed s e
      · exact ⟨h1.trans hk, fun h => hc (h2 ▸ h)⟩
      · exact ⟨h1.trans hk, fun _ => hk ▸ h2 ▸ he⟩)
    (s := St.init kind) ⟨rfl, nofun⟩
  unfold outcome at h
  rw [List.foldl_append] at h
  simp only [List.foldl_cons, List.foldl_nil, step, finish] at h
  cases hc : (evs.foldl (step fixed) (St.init kind)).caller with
  | waiting => simp [hc] at h
  | returned b =>
    simp only [hc, Option.some.injEq] at h
    exact hP.2 (h ▸ hc)

/-- and it does succeed when that reply comes first -/
theorem own_reply_first_succeeds (kind : Nat) (rest : List PeerEv) :
    outcome fixed kind (.reply kind :: rest) = some true := by
  unfold outcome
  simp only [List.cons_append, List.foldl_cons]
  have h := StepSystem.foldl_invariant (step := step fixed) (rest ++ [PeerEv.close])
    (P := fun s => s.caller = .returned true)
    (fun s e _ hc => by
      obtain ⟨_, h2 | ⟨h2, _⟩⟩ := step_caller fixed s e
      · exact h2.trans hc
      · rw [hc] at h2; cases h2)
    (s := step fixed (St.init kind) (.reply kind)) (by simp [step, St.init])
  unfold finish
  rw [h]

/-- peer-sharing before the repair: the result channel is never closed and DoneChan is not
    selected on — silence followed by a disconnect blocks GetPeers for good -/
theorem never_closed_channel_witness :
    outcome { selectsDone := false, perKindStates := true } 0 [] = none ∧
    leaks { selectsDone := false, perKindStates := true } 0 [] = true := by decide

/-- local-tx-monitor before the repair: ReplyNextTx (kind 1) answering HasTx (kind 0) is admitted
    by the single Busy state, its handler blocks, DoneChan never closes, HasTx never returns -/
theorem collapsed_busy_witness :
    outcome { selectsDone := true, perKindStates := false } 0 [.reply 1] = none ∧
    leaks { selectsDone := true, perKindStates := false } 0 [.reply 1] = true := by decide

example : outcome fixed 0 [.reply 1] = some false := by decide
example : outcome fixed 0 [.junk, .reply 0] = some false := by decide
example : outcome fixed 0 [.reply 0, .reply 0] = some true := by decide

/-! ### muxer hand-over and UnregisterProtocol, step by step -/

/-- invariant of the repaired muxer: once UnregisterProtocol has been called, `closing` is
    signalled -/
def MInv (t : MSt) : Prop := t.fixedMux = true ∧ (1 ≤ t.unreg → t.closing = true)

theorem minv_step (t t1 : MSt) (a : MAct) (hi : MInv t) (hst : mstep t a = some t1) : MInv t1 := by
  obtain ⟨hf, hc⟩ := hi
  revert hst
  fun_cases mstep t a <;> intro hst <;> cases hst
  case case7 => exact ⟨hf, fun _ => hf⟩                    -- `stop` sets `closing := fixedMux`
  case case11 h1 => exact ⟨hf, fun _ => hc (by omega)⟩     -- `finishUnreg`: `unreg` was 1
  all_goals exact ⟨hf, hc⟩

theorem mrun_eq_foldlM (t : MSt) (acts : List MAct) : mrun t acts = acts.foldlM mstep t := by
  fun_induction mrun t acts <;> simp [*]

theorem minv_run (acts : List MAct) (t t' : MSt) (hi : MInv t) (h : mrun t acts = some t') : MInv t' :=
  StepSystem.foldlM_invariant acts (fun t a t1 _ hi hst => minv_step t t1 a hi hst) hi
    (mrun_eq_foldlM t acts ▸ h)

/-- **`Protocol.Stop()` always gets through the muxer.** In every reachable state of the
    repaired muxer in which UnregisterProtocol is waiting, it can complete at once, or the
    blocked hand-over can let go at once and then it completes — whatever the peer sent and
    whether or not anybody drains the channel. -/
theorem unregister_completes (onWire : Nat) (acts : List MAct) (t : MSt)
    (h : mrun (MSt.init true onWire) acts = some t) (hw : t.unreg = 1) :
    (mstep t .finishUnreg).isSome = true ∨
    ∃ t1, mstep t .wake = some t1 ∧ (mstep t1 .finishUnreg).isSome = true := by
  obtain ⟨_, hc⟩ := minv_run acts (MSt.init true onWire) t ⟨rfl, by simp [MSt.init]⟩ h
  have hcl : t.closing = true := hc (by omega)
  by_cases hh : t.held = true
  · right
    refine ⟨{ t with held := false }, by simp [mstep, hh, hcl], by simp [mstep, hw]⟩
  · left
    simp [mstep, hw, hh]

/-- the muxer before the repair: eleven surplus segments, then the protocol stops — the read
    loop is parked holding the mutex, UnregisterProtocol waits for it, and **no** action is
    enabled any more: Stop never returns and the peer's disconnect is never seen -/
theorem old_muxer_deadlock_witness :
    ∃ t, mrun (MSt.init false 11) (List.replicate 11 MAct.read ++ [.stop]) = some t ∧
      t.unreg = 1 ∧ t.held = true ∧ t.eofSeen = false ∧
      ∀ a, mstep t a = none := by
  refine ⟨_, rfl, rfl, rfl, rfl, ?_⟩
  intro a; cases a <;> decide

/-- the same schedule with the repaired muxer: wake, then UnregisterProtocol completes and the
    read loop goes back to the connection and sees the disconnect -/
example : (mrun (MSt.init true 11) (List.replicate 11 MAct.read ++ [.stop, .wake, .finishUnreg, .eof])).map
    (fun t => (t.unreg, t.held, t.eofSeen)) = some (2, false, true) := by decide

end GV.Props.C15
