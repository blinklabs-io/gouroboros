import GV.Model.BlockFetch
import GV.Proofs.StepSystem
/-!
C23 — Block-fetch returns the blocks that were asked for.

For *every* sequence of server messages (followed by the peer's disconnect):
* a single-block request succeeds only with the requested block — exactly when
  the batch is `StartBatch, Block(requested), BatchDone` — and otherwise fails;
  it never hangs (no handler is left blocked);
* no block, a different block, several blocks ⇒ error;
* a range request delivers the served blocks to the callback in order and then
  completes.
-/
namespace GV.Props.C23
open GV.Model.BlockFetch

/-! ### an independent, regular-expression-like description of GetBlock -/

/-- after `StartBatch, Block h, …` (extra = a further block has been seen) -/
def afterBlock (want h : Nat) : Bool → List Ev → Res
  | _, [] => .shutdown
  | _, .block _ :: rest => afterBlock want h true rest
  | extra, .batchDone :: _ => if extra then .multi else if h = want then .ok h else .mismatch
  | _, _ :: _ => .shutdown

/-- what GetBlock returns: it always returns -/
def specGet (want : Nat) : List Ev → Res
  | .noBlocks :: _ => .notFound
  | .start :: .batchDone :: _ => .noBlock
  | .start :: .block h :: rest => afterBlock want h false rest
  | _ => .shutdown

/-! ### the automaton equals that description -/

theorem step_inert (want : Nat) (s : St) (e : Ev)
    (h : s.stuck = true ∨ s.dead = true ∨ s.ps = .idle) : step want s e = s := by
  unfold step
  rcases h with h | h | h
  · simp [h]
  · simp [h]
  · by_cases hh : (s.stuck || s.dead) = true
    · simp [hh]
    · simp [hh, h]

theorem fold_inert (want : Nat) (evs : List Ev) (s : St)
    (h : s.stuck = true ∨ s.dead = true ∨ s.ps = .idle) : evs.foldl (step want) s = s :=
  GV.StepSystem.foldl_fixed (fun e => step_inert want s e h) evs

theorem finish_ret (ps : PState) (r : Res) (st d : Bool) : finish ⟨ps, .ret r, st, d⟩ = .res r := rfl

theorem run_afterBlock (want h : Nat) (evs : List Ev) : ∀ extra : Bool,
    finish (evs.foldl (step want) ⟨.streaming, .waitDone h extra, false, false⟩) =
      .res (afterBlock want h extra evs) := by
  induction evs with
  | nil => intro extra; rfl
  | cons e t ih =>
    intro extra
    -- a block stays streaming, now with `extra`; `BatchDone` goes idle with the caller's result; any other
    -- message fails the protocol.  Idle and dead states ignore the rest of the stream (`fold_inert`)
    cases e <;> simp [step, nextState, fail, afterBlock, fold_inert, finish_ret, ih]

theorem getBlock_eq_spec (want : Nat) (evs : List Ev) : getBlock want evs = .res (specGet want evs) := by
  unfold getBlock
  cases evs with
  | nil => rfl
  | cons e t =>
    cases e with
    | start =>
      cases t with
      | nil => rfl
      | cons e2 t2 =>
        -- after `StartBatch`: a block leads to `run_afterBlock`, `BatchDone` goes idle with `noBlock`
        cases e2 <;> simp [step, nextState, fail, St.init, specGet, fold_inert, finish_ret, run_afterBlock]
    -- `NoBlocks` goes idle with `notFound`; no other first message is allowed in `busy`
    | _ => simp [step, nextState, fail, St.init, specGet, fold_inert, finish_ret]

/-! ### the property -/

/-- No server behaviour makes the call hang: whatever is sent, once the peer
    disconnects GetBlock has returned a block or an error. -/
theorem get_never_hangs (want : Nat) (evs : List Ev) : getBlock want evs ≠ .hang := by
  rw [getBlock_eq_spec]; exact Outcome.noConfusion

theorem afterBlock_ok {want h x : Nat} {extra : Bool} {evs : List Ev} (hh : afterBlock want h extra evs = .ok x) :
    extra = false ∧ h = want ∧ x = want ∧ ∃ rest, evs = .batchDone :: rest := by
  fun_induction afterBlock want h extra evs with
  -- a further block: the rest is read with `extra = true`, and for `ok` it would have to be `false`
  | case2 _ _ rest ih => cases (ih hh).1
  -- `BatchDone`, no further block seen, `h = want`
  | case4 extra rest hx hw => cases hh; exact ⟨by simpa using hx, hw, hw, rest, rfl⟩
  -- the stream ends, `BatchDone` after a surplus block or with `h ≠ want`, any other message
  | _ => cases hh

/-- GetBlock succeeds **iff** the server's batch is exactly
    `StartBatch, Block(requested point), BatchDone` (whatever follows is never
    looked at), and then it returns that block. -/
theorem get_ok_iff (want x : Nat) (evs : List Ev) :
    getBlock want evs = .res (.ok x) ↔
      x = want ∧ ∃ rest, evs = .start :: .block want :: .batchDone :: rest := by
  rw [getBlock_eq_spec, Outcome.res.injEq]
  constructor
  · fun_cases specGet want evs <;> intro h
    case case3 h0 t =>
      obtain ⟨_, rfl, rfl, rest, rfl⟩ := afterBlock_ok h
      exact ⟨rfl, rest, rfl⟩
    all_goals cases h
  · rintro ⟨rfl, rest, rfl⟩
    simp [specGet, afterBlock]

/-- A successful single-block request returns only the requested block. -/
theorem get_only_matching (want x : Nat) (evs : List Ev) (h : getBlock want evs = .res (.ok x)) :
    x = want := ((get_ok_iff want x evs).mp h).1

/-- no block at all -/
theorem get_empty_batch_fails (want : Nat) (rest : List Ev) :
    getBlock want (.start :: .batchDone :: rest) = .res .noBlock := by
  rw [getBlock_eq_spec]; rfl

/-- "block(s) not found" -/
theorem get_no_blocks_fails (want : Nat) (rest : List Ev) :
    getBlock want (.noBlocks :: rest) = .res .notFound := by
  rw [getBlock_eq_spec]; rfl

/-- a different block -/
theorem get_wrong_block_fails (want h : Nat) (rest : List Ev) (hne : h ≠ want) :
    getBlock want (.start :: .block h :: .batchDone :: rest) = .res .mismatch := by
  rw [getBlock_eq_spec]; simp [specGet, afterBlock, hne]

theorem afterBlock_blocks (want h : Nat) (bs : List Nat) (rest : List Ev) : ∀ extra,
    afterBlock want h extra (bs.map .block ++ rest) = afterBlock want h (extra || !bs.isEmpty) rest := by
  induction bs with
  | nil => simp
  | cons b t ih => simp [afterBlock, ih]

/-- several blocks (two or more, the requested one among them or not) -/
theorem get_several_blocks_fail (want h1 h2 : Nat) (bs : List Nat) (rest : List Ev) :
    getBlock want (.start :: .block h1 :: .block h2 :: (bs.map Ev.block ++ .batchDone :: rest)) =
      .res .multi := by
  rw [getBlock_eq_spec]
  simp [specGet, afterBlock, afterBlock_blocks]

/-- silence then disconnect at any earlier point is an error, not a hang, not a block -/
theorem get_truncated_fails (want : Nat) (bs : List Nat) :
    getBlock want [] = .res .shutdown ∧ getBlock want [.start] = .res .shutdown ∧
    getBlock want (.start :: bs.map Ev.block) = .res .shutdown := by
  refine ⟨by rw [getBlock_eq_spec]; rfl, by rw [getBlock_eq_spec]; rfl, ?_⟩
  rw [getBlock_eq_spec]
  cases bs with
  | nil => rfl
  | cons b t =>
    have := afterBlock_blocks want b t [] false
    rw [List.append_nil] at this
    simp [specGet, this, afterBlock]

/-- non-vacuity: concrete runs of the automaton -/
example : getBlock 3 [.start, .block 3, .batchDone] = .res (.ok 3) := by decide
example : getBlock 3 [.start, .block 4, .batchDone] = .res .mismatch := by decide
example : getBlock 3 [.start, .batchDone] = .res .noBlock := by decide
example : getBlock 3 [.start, .block 3, .block 4, .batchDone] = .res .multi := by decide

/-- What was repaired (fix fad855c), on the handler/caller rendezvous as it was before that fix
    (`getBlockOld`; the `prefix` of the name reads pre-fix): a wrong
    block was returned as if it were the requested one, an empty batch and a second block
    left a handler blocked for good — the call hung even after the peer had gone. -/
theorem prefix_defects_witness :
    getBlockOld [.start, .block 4, .batchDone] = .res (.ok 4) ∧
    getBlockOld [.start, .batchDone] = .hang ∧
    getBlockOld [.start, .block 3, .block 4, .batchDone] = .hang := by decide

/-! ### range requests -/

theorem rfold_inert (evs : List Ev) (s : RSt) (h : s.dead = true ∨ s.ps = .idle) :
    evs.foldl rstep s = s := by
  refine GV.StepSystem.foldl_fixed (fun e => ?_) evs
  unfold rstep
  rcases h with h | h
  · simp [h]
  · by_cases hd : s.dead = true
    · simp [hd]
    · simp [hd, h]

theorem rfold_blocks (bs : List Nat) : ∀ (ret : Option Res) (cbs : List Nat) (d : Nat),
    (bs.map Ev.block).foldl rstep ⟨.streaming, ret, true, cbs, d, false⟩ =
      ⟨.streaming, ret, true, cbs ++ bs, d, false⟩ := by
  induction bs with
  | nil => simp
  | cons b t ih => simp [rstep, nextState, ih]

theorem rfold_start_blocks (bs : List Nat) :
    (Ev.start :: bs.map Ev.block).foldl rstep RSt.init = ⟨.streaming, none, true, bs, 0, false⟩ :=
  -- `StartBatch` takes the initial state to the streaming one, by computation
  rfold_blocks bs none [] 0

theorem rfold_served (bs : List Nat) (rest : List Ev) :
    (Ev.start :: (bs.map Ev.block ++ .batchDone :: rest)).foldl rstep RSt.init =
      ⟨.idle, none, true, bs, 1, false⟩ := by
  rw [← List.cons_append, List.foldl_append, rfold_start_blocks]
  exact rfold_inert rest _ (Or.inr rfl)

/-- A range request whose batch is served (`StartBatch, blocks…, BatchDone`)
    returns without error, hands the blocks to the callback in the order served,
    and then signals completion exactly once — whatever follows. -/
theorem range_in_order_then_done (bs : List Nat) (rest : List Ev) :
    let s := rangeRun (.start :: (bs.map Ev.block ++ .batchDone :: rest))
    s.result = none ∧ s.cbs = bs ∧ s.done = 1 := by
  simp only [rangeRun, rfold_served]
  simp [RSt.result]

/-- while the batch is still streaming the callbacks so far are the blocks so far, in order -/
theorem range_prefix_in_order (bs : List Nat) :
    let s := rangeRun (.start :: bs.map Ev.block)
    s.result = none ∧ s.cbs = bs ∧ s.done = 0 := by
  simp only [rangeRun, rfold_start_blocks]
  simp [RSt.result]

example : (rangeRun [.start, .block 1, .block 2, .batchDone]).cbs = [1, 2] := by decide

/-! ### two calls on one connection (busy lock) -/

/-- what is preserved by every step of the two-call system: the range batch has consumed a
    prefix of its answer in callback mode; the single-block call runs only after the lock is
    free, and finishing its remaining input from its current state gives what the single-call
    automaton gives on the whole rest of the stream -/
def TInv (want : Nat) (ev1 ev2 : List Ev) (t : TSt) : Prop :=
  ∃ pre left, ev1 = pre ++ left ∧ t.r = pre.foldl rstep RSt.init ∧
    t.lockR = (!(t.r.ps == .idle) && !t.r.dead) ∧
    match t.g with
    | .active s => t.rem1 = [] ∧ t.lockR = false ∧
        t.rem2.foldl (step want) s = (left ++ ev2).foldl (step want) (if t.r.dead then deadSt else St.init)
    | _ => t.rem1 = left ∧ t.rem2 = ev2

theorem tinv_init (want : Nat) (ev1 ev2 : List Ev) : TInv want ev1 ev2 (TSt.init ev1 ev2) :=
  ⟨[], ev1, rfl, rfl, by simp [TSt.init, RSt.init], by simp [TSt.init]⟩

theorem tinv_step (want : Nat) (ev1 ev2 : List Ev) (t t' : TSt) (a : TAct)
    (h : TInv want ev1 ev2 t) (hs : tstep want t a = some t') : TInv want ev1 ev2 t' := by
  obtain ⟨pre, left, he, hr, hl, hg⟩ := h
  revert hs
  fun_cases tstep want t a <;> intro hs <;> cases hs
  -- GetBlock is called: it starts to wait for the lock
  case case1 hi =>
    rw [hi] at hg
    exact ⟨pre, left, he, hr, hl, hg⟩
  -- GetBlock takes the free lock: what is left of the batch's answer goes to it
  case case4 hi hlk =>
    rw [hi] at hg
    exact ⟨pre, t.rem1, hg.1 ▸ he, hr, hl, rfl, by simpa using hlk, by rw [hg.2]⟩
  -- a message of the batch is handled: the range call still holds the lock
  case case7 hlk e rest h1 r' =>
    cases hi : t.g with
    | active s => rw [hi] at hg; simp [hg.2.1] at hlk
    | _ =>
      rw [hi] at hg
      exact ⟨pre ++ [e], rest, by simp [he, ← hg.1, h1], by simp [r', List.foldl_append, hr], rfl, rfl, hg.2⟩
  -- a message is handled by the single-block call
  case case9 s e rest h2 hi =>
    rw [hi] at hg
    obtain ⟨h1, hlk, h3⟩ := hg
    rw [h2] at h3
    exact ⟨pre, left, he, hr, hl, h1, hlk, h3⟩

theorem trun_eq_foldlM (want : Nat) (t : TSt) (sched : List TAct) :
    trun want t sched = sched.foldlM (tstep want) t := by
  fun_induction trun want t sched <;> simp [*]

theorem tinv_run {want : Nat} {ev1 ev2 : List Ev} {sched : List TAct} {t : TSt}
    (hr : trun want (TSt.init ev1 ev2) sched = some t) : TInv want ev1 ev2 t :=
  GV.StepSystem.foldlM_invariant sched (fun t a t' _ => tinv_step want ev1 ev2 t t' a)
    (tinv_init want ev1 ev2) (trun_eq_foldlM want _ sched ▸ hr)

/-- **The mode flag is never flipped under a running batch**: whenever the single-block call
    is active, the range call has released the busy lock and nothing of its batch is pending. -/
theorem get_waits_for_batch (want : Nat) (ev1 ev2 : List Ev) (sched : List TAct) (t : TSt) (s : St)
    (h : trun want (TSt.init ev1 ev2) sched = some t) (hg : t.g = .active s) :
    t.lockR = false ∧ t.rem1 = [] := by
  obtain ⟨_, _, _, _, _, hm⟩ := tinv_run h
  rw [hg] at hm
  exact ⟨hm.2.1, hm.1⟩

/-- **Two calls, any interleaving.** A range request answered by a served batch
    (`StartBatch, blocks…, BatchDone`) and a single-block request started at any moment from
    another goroutine: once everything has been delivered, the range callbacks are the served
    blocks in order, completion was signalled once, and the single-block call ends exactly as
    it would alone on its own answer (so `get_ok_iff`, `get_never_hangs`, … apply to it). -/
theorem two_calls_compose (want : Nat) (bs : List Nat) (ev2 : List Ev) (sched : List TAct) (t : TSt) (s : St)
    (h : trun want (TSt.init (.start :: (bs.map Ev.block ++ [.batchDone])) ev2) sched = some t)
    (hg : t.g = .active s) (hdone : t.rem2 = []) :
    t.r.cbs = bs ∧ t.r.done = 1 ∧ t.r.result = none ∧ finish s = getBlock want ev2 := by
  obtain ⟨pre, left, he, hr, hl, hm⟩ := tinv_run h
  rw [hg] at hm
  obtain ⟨_, hlk, hs⟩ := hm
  -- the lock is free, so the range call is idle or dead
  have hin : t.r.dead = true ∨ t.r.ps = .idle := by simpa [hl, Decidable.or_iff_not_imp_right] using hlk
  have hleft : left = [] := by
    rcases List.eq_nil_or_concat left with h | ⟨c, x, rfl⟩
    · exact h
    -- otherwise `pre` ends within `StartBatch, blocks…`: idle or dead, the range call ignores what is left
    -- of those (`c`), but after all of them it is streaming
    · rw [List.concat_eq_append, ← List.cons_append, ← List.append_assoc] at he
      have hpc : .start :: bs.map .block = pre ++ c := (List.append_inj' he rfl).1
      have hb := rfold_start_blocks bs
      rw [hpc, List.foldl_append, ← hr, rfold_inert c t.r hin] at hb
      simp [hb] at hin
  subst hleft
  have hwhole : t.r = ⟨.idle, none, true, bs, 1, false⟩ := by
    rw [hr, ← List.append_nil pre, ← he, rfold_served]
  -- nothing remains and the range call is not dead: `hs` computes to `s = ev2.foldl (step want) St.init`
  rw [hdone, hwhole] at hs
  rw [hwhole]
  exact ⟨rfl, rfl, rfl, congrArg finish hs⟩

/-- non-vacuity: GetBlock started in the middle of the batch, a complete schedule -/
example : (trun 3 (TSt.init [.start, .block 1, .block 2, .batchDone] [.start, .block 3, .batchDone])
    [.deliverR, .deliverR, .gBegin, .deliverR, .deliverR, .gLock, .deliverG, .deliverG, .deliverG]).map
      (fun t => (t.r.cbs, t.r.done, match t.g with | .active s => finish s | _ => .hang)) =
    some ([1, 2], 1, .res (.ok 3)) := by decide

/-- … and it cannot take the lock while the batch is streaming -/
example : (trun 3 (TSt.init [.start, .block 1, .batchDone] [.start]) [.deliverR, .gBegin, .gLock]).isNone = true := by
  decide

end GV.Props.C23
