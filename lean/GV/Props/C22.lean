import GV.Model.ChainSyncWrap
import GV.Proofs.VersionData
import GV.Gen.ChainSyncEraMaps
/-!
C22 — Chain-sync wrapping preserves block and header identity.

* node-to-client: for every block type, every block (one CBOR item) and every
  tip, the client's decoder applied to the server's encoding returns the same
  type, the byte-identical block, and the tip (`ntc_wrap_roundtrip`);
* node-to-node: for every Shelley-or-later block type of the *regenerated* era
  tables, the header the client receives is byte-for-byte the first element of
  the block, labelled with an era that maps back to the same block type
  (`ntn_header_identity`); hence any hash of the received header equals the
  same hash of the block's header, which is the block hash (`ntn_hash_identity`).
-/
namespace GV.Props.C22
open GV.Model.ChainSyncWrap
open GV.Gen.ChainSyncEraMaps

def u64 : Nat := 18446744073709551616

theorem decHead_readArg {b n : Nat} {r r' : Bytes}
    (h : GV.Model.VersionData.readArg (b % 32) r = some (n, r')) :
    decHead (b :: r) = some (b / 32, n, r') := by
  simp only [decHead]
  generalize b % 32 = ai at h ⊢
  unfold GV.Model.VersionData.readArg at h
  split at h
  · cases h; rw [if_pos ‹_›]
  · rw [if_neg ‹_›]
    split at h
    · cases h; rfl
    · cases h; rfl
    · cases h; rfl
    · cases h; rfl
    · cases h

theorem decHead_encHead (m n : Nat) (rest : Bytes) (hn : n < u64) :
    decHead (encHead m n ++ rest) = some (m, n, rest) := by
  obtain ⟨b, t, he, hm, hr⟩ := GV.Proofs.VersionData.readArg_encodeHead m n
  rw [show encHead m n = GV.Model.VersionData.encodeHead m n from rfl, he, ← hm]
  exact decHead_readArg (hr hn rest)

theorem expectHead_encHead (m n : Nat) (rest : Bytes) (hn : n < u64) :
    expectHead m (encHead m n ++ rest) = some (n, rest) := by
  simp [expectHead, decHead_encHead m n rest hn]

-- for `simp`: the head arguments the encoders write as literals are 0, 2, 3 and the tag number 24
theorem small_lt_u64 {n : Nat} (h : n < 25) : n < u64 := Nat.lt_trans h (by decide)

theorem tag24_roundtrip (b rest : Bytes) (hb : b.length < u64) :
    decTag24Bstr (encTag24Bstr b ++ rest) = some (b, rest) := by
  simp [decTag24Bstr, encTag24Bstr, encBstr, expectHead_encHead, hb, small_lt_u64]

/-- a tip whose numbers and hash length fit CBOR -/
def Tip.ok (t : Tip) : Prop :=
  t.slot < u64 ∧ t.blockNo < u64 ∧ (∀ h, t.hash = some h → h.length < u64) ∧ (t.hash = none → t.slot = 0)

theorem tip_roundtrip (t : Tip) (ht : Tip.ok t) : decTip (encTip t) = some t := by
  obtain ⟨slot, hash, blockNo⟩ := t
  obtain ⟨hs, hb, hh, ho⟩ := ht
  have hbn := expectHead_encHead 0 blockNo [] hb
  rw [List.append_nil] at hbn
  -- each head is read back by `expectHead_encHead`; `hbn` is the last one, with nothing after it
  cases hash with
  | none =>
    obtain rfl : slot = 0 := ho rfl
    simp [decTip, encTip, encUint, expectHead_encHead, small_lt_u64, hbn]
  | some h => simp [decTip, encTip, encUint, encBstr, expectHead_encHead, small_lt_u64, hbn, hs, hh h rfl]

/-- **Node-to-client.** Whatever the block type (< 2^64), the block bytes (any
    single CBOR item the library accepts, of any size CBOR can frame) and the tip,
    the client decodes the same type, the byte-identical block and the same tip. -/
theorem ntc_wrap_roundtrip (wfItem : Bytes → Bool) (ty : Nat) (block : Bytes) (tip : Tip)
    (hty : ty < u64) (hlen : block.length + 10 < u64) (hwf : wfItem block = true) (htip : Tip.ok tip) :
    decRollForwardNtC wfItem (encRollForwardNtC ty block tip) = some (ty, block, tip) := by
  have hcl : (encHead 4 2 ++ (encHead 0 ty ++ block)).length < u64 := by
    have h2 : (encHead 0 ty).length ≤ 9 := GV.Proofs.VersionData.encodeHead_length_le 0 ty
    simp only [List.length_append, show (encHead 4 2).length = 1 from rfl]
    unfold u64 at *; omega
  -- `hcl`: what goes under tag 24 (array(2), uint `ty`, the block) can be framed as a byte string
  simp [decRollForwardNtC, encRollForwardNtC, encUint, expectHead_encHead, small_lt_u64, tag24_roundtrip _ _ hcl,
    tip_roundtrip tip htip, hty, hwf]

/-- the regenerated era tables are mutually inverse on every Shelley-or-later block type -/
theorem era_maps_inverse :
    ∀ ty ∈ shelleyOrLaterBlockTypes,
      ∃ era, lookup blockToHeader ty = some era ∧ lookup headerToBlock era = some ty ∧ era ≠ headerTypeByron := by
  decide

/-- … and they are exactly each other's converse (no stray entries) -/
theorem era_maps_converse :
    blockToHeader.map (fun p => (p.2, p.1)) = headerToBlock ∧
    blockToHeader.map (·.1) = shelleyOrLaterBlockTypes := by decide

/-- Byron blocks have no node-to-node header type in these tables (the server refuses them) -/
theorem byron_not_served_ntn : ∀ ty ∈ byronBlockTypes, lookup blockToHeader ty = none := by decide

theorem ntn_msg_roundtrip (era : Nat) (hdr : Bytes) (tip : Tip)
    (hera : era < u64) (hlen : hdr.length < u64) (htip : Tip.ok tip) :
    decRollForwardNtN (encRollForwardNtN era hdr tip) = some (era, hdr, tip) := by
  simp [decRollForwardNtN, encRollForwardNtN, encUint, expectHead_encHead, small_lt_u64, hera,
    tag24_roundtrip _ _ hlen, tip_roundtrip tip htip]

/-- **Node-to-node.** For every Shelley-or-later block type, if `hdr` is what the server takes
    from the block (`firstItem`: the `hl` bytes after the array head, which are the first
    element when `hl` is that element's length — an input this theorem does not constrain),
    the client receives exactly `hdr`, the block type the era maps back to is the original
    one, and the tip is intact. -/
theorem ntn_header_identity (ty : Nat) (block : Bytes) (hl : Nat) (hdr : Bytes) (tip : Tip)
    (hty : ty ∈ shelleyOrLaterBlockTypes) (hfirst : firstItem block hl = some hdr)
    (hlen : hdr.length < u64) (htip : Tip.ok tip) :
    ∃ wire, ntnPath blockToHeader headerToBlock ty block hl tip = .delivered ty hdr tip wire := by
  obtain ⟨era, h1, h2, _⟩ := era_maps_inverse ty hty
  have hera : era < u64 := by
    have : ∀ ty ∈ shelleyOrLaterBlockTypes, ∀ e, lookup blockToHeader ty = some e → e < 24 := by decide
    have := this ty hty era h1
    unfold u64; omega
  unfold ntnPath
  simp only [h1, hfirst]
  rw [ntn_msg_roundtrip era hdr tip hera hlen htip]
  simp only [h2]
  exact ⟨_, rfl⟩

/-- Block hash = hash of the header bytes; the header bytes arrive unchanged, so
    for *any* hash function the received header hashes to the block's hash. -/
theorem ntn_hash_identity {D : Type} (H : Bytes → D) (ty : Nat) (block : Bytes) (hl : Nat)
    (hdr : Bytes) (tip : Tip) (hty : ty ∈ shelleyOrLaterBlockTypes)
    (hfirst : firstItem block hl = some hdr) (hlen : hdr.length < u64) (htip : Tip.ok tip) :
    ∀ ty' hdr' tip' wire,
      ntnPath blockToHeader headerToBlock ty block hl tip = .delivered ty' hdr' tip' wire →
      ty' = ty ∧ H hdr' = H hdr := by
  intro ty' hdr' tip' wire h
  obtain ⟨w, hw⟩ := ntn_header_identity ty block hl hdr tip hty hfirst hlen htip
  rw [hw] at h
  cases h
  exact ⟨rfl, rfl⟩

/-- non-vacuity: a Babbage-labelled two-element "block" whose header is `[1,2]` -/
example : (match ntnPath blockToHeader headerToBlock 6 [130, 130, 1, 2, 128] 3 ⟨5, some [9, 9], 7⟩ with
    | .delivered ty hdr tip _ => ty == 6 && hdr == [130, 1, 2] && tip == ⟨5, some [9, 9], 7⟩
    | _ => false) = true := by decide
example : decRollForwardNtC (fun _ => true) (encRollForwardNtC 7 [130, 1, 2] ⟨0, none, 3⟩) =
    some (7, [130, 1, 2], ⟨0, none, 3⟩) := by decide
/-- the decoder is not the constant function: a damaged tag is refused -/
example : decRollForwardNtC (fun _ => true) [131, 2, 216, 25, 67, 130, 7, 128, 130, 128, 3] = none := by decide

end GV.Props.C22
