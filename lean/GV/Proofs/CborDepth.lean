import GV.Lib.CborDepth
import GV.Proofs.CborBytes
/-!
  The depth-limited machine accepts a subset of what the unlimited one accepts, with the same
  length; it is monotone in the limit; and a limit of at least the input length is no limit
  at all (every open frame has consumed a byte), so nesting depth — hence the decoder's
  stack — is bounded by the input size.
-/
namespace GV.Cbor

theorem runSD_le {lim lim' : Nat} (hl : lim ≤ lim') {f : Nat} {rest : Bytes} {pos : Nat} {st : Stack}
    {r : Res} : runSD lim f rest pos st = r → r ≠ .bad → runSD lim' f rest pos st = r := by
  fun_induction runSD lim f rest pos st
  -- too deep for `lim`
  case case5 => exact fun h hr => absurd h.symm hr
  -- not too deep for `lim`, so neither for `lim'`
  case case6 f rest pos st c st' hs h ih =>
    rw [runSD, hs]
    simp only
    rwa [if_neg (show ¬ st'.length > lim' by omega)]
  -- no fuel, or the run ends with this step
  all_goals
    simp only [runSD, *]
    exact fun h _ => h

theorem runSD_eq_runS {lim f : Nat} {rest : Bytes} {pos : Nat} {st : Stack} :
    st.length + rest.length ≤ lim → runSD lim f rest pos st = runS f rest pos st := by
  fun_induction runS f rest pos st
  -- a step that goes on consumes a byte and opens at most one frame
  case case5 f rest pos st c st' hs ih =>
    intro hle
    have hb := step_bounds hs
    have hg := (step_cont_stack hs).2
    rw [runSD, hs]
    simp only
    rw [if_neg (by omega)]
    exact ih (by simp only [List.length_drop]; omega)
  -- no fuel, or the run ends with this step
  all_goals
    intro _
    simp only [runSD, *]

theorem runSD_imp {lim f : Nat} {rest : Bytes} {pos : Nat} {st : Stack} {r : Res}
    (h : runSD lim f rest pos st = r) (hr : r ≠ .bad) : runS f rest pos st = r := by
  -- raise the limit to where it no longer binds
  rw [← runSD_eq_runS (Nat.le_max_right lim (st.length + rest.length))]
  exact runSD_le (Nat.le_max_left _ _) h hr

theorem runSD_needMore_imp (lim : Nat) : ∀ (f : Nat) (rest : Bytes) (pos : Nat) (st : Stack),
    runSD lim f rest pos st = .needMore → runS f rest pos st = .needMore :=
  fun _ _ _ _ h => runSD_imp h nofun

theorem wfItemD_ok_imp {lim : Nat} {b : Bytes} {n : Nat} (h : wfItemD lim b = .ok n) : wfItem b = .ok n := by
  rw [wfItem_eq]; exact runSD_imp h nofun

theorem wfItemD_mono {lim lim' : Nat} (hl : lim ≤ lim') {b : Bytes} {n : Nat}
    (h : wfItemD lim b = .ok n) : wfItemD lim' b = .ok n := runSD_le hl h nofun

theorem wfItemD_large {lim : Nat} {b : Bytes} (hl : b.length ≤ lim) : wfItemD lim b = wfItem b := by
  rw [wfItem_eq]; exact runSD_eq_runS (by simpa using hl)

theorem wfD_consumes_le {lim : Nat} {b : Bytes} {n : Nat} (h : wfItemD lim b = .ok n) :
    0 < n ∧ n ≤ b.length := wf_consumes_le (wfItemD_ok_imp h)

/-- the limit really limits: 3 nested arrays are rejected at limit 2, accepted at 3 -/
example : wfItemD 2 [0x81, 0x81, 0x81, 0x00] = .bad ∧ wfItemD 3 [0x81, 0x81, 0x81, 0x00] = .ok 4 := by decide

end GV.Cbor
