import GV.Model.Timeout
import GV.Spec.Conformance
/-!
  C14 — State timeouts fire exactly when the peer stalls.  Level: partial.

  Proved: the arming logic of `stateLoop` (model `GV.Timeout`, for every event sequence):
  a timer exists only for a state that has a timeout and was entered by a transition; it is
  re-armed (from the entry time) on every transition; it can fire only after the state has
  been held for the full timeout without any transition; once the deadline has passed and
  nothing moved, firing is enabled.  And the timeout TABLE of the regenerated state maps equals
  the network specification's table for the server side of every Cardano mini-protocol.
  Not proved (runtime): wall-clock exactness of Go timers; exercised by scaled-down runs.
-/
namespace GV.Props.C14
open GV.SM GV.Timeout

variable {c : Cfg}

/-- the timer is a function of how the current state was entered -/
def Inv (t : T) : Prop :=
  t.timer = if t.entryInitial = false ∧ t.armedWith > 0 ∧ t.fired = false
    then some (t.entered + t.armedWith) else none

theorem inv_init (s0 : Nat) : Inv (init s0) := rfl

inductive Step (c : Cfg) (t : T) : Ev → T → Prop
  | first {s fv : Nat} : t.fired = false → t.initialSet = false →
      Step c t (.setState s fv) { t with st := s, timer := none, initialSet := true,
                                         entered := t.now, entryInitial := true, armedWith := 0 }
  | enter {s fv : Nat} : t.fired = false → t.initialSet = true →
      Step c t (.setState s fv)
        { t with st := s, entered := t.now, entryInitial := false, armedWith := effTimeout c s fv,
                 timer := if effTimeout c s fv > 0 then some (t.now + effTimeout c s fv) else none }
  | tick {d : Nat} : Step c t (.tick d) { t with now := t.now + d }
  | fire {dl : Nat} : t.timer = some dl → dl ≤ t.now → t.fired = false →
      Step c t .fire { t with timer := none, fired := true }

theorem step_cases {t t' : T} {e : Ev} (h : step? c t e = some t') : Step c t e t' := by
  revert h
  -- `cases h` closes the branches that yield `none`: `setState` after the timer has fired (1),
  -- `fire` before the deadline or fired already (6), `fire` with no timer (7)
  fun_cases step? c t e <;> intro h <;> cases h
  -- `setState`, not fired: the first one (2), a later one (3)
  case case2 hf hs => exact .first (by simpa using hf) (by simpa using hs)
  case case3 hf hs _ => exact .enter (by simpa using hf) (by simpa using hs)
  case case4 => exact .tick
  -- `fire` with the timer `ht` running and due
  case case5 ht hc =>
    simp only [Bool.and_eq_true, decide_eq_true_eq, Bool.not_eq_true'] at hc
    exact .fire ht hc.1 hc.2

theorem inv_step {t t' : T} {e : Ev} (hi : Inv t) (h : step? c t e = some t') : Inv t' := by
  cases step_cases h with
  | first => simp [Inv]
  | enter hf => simp [Inv, hf]
  | tick => exact hi
  | fire => simp [Inv]

theorem run_eq_foldlM (t : T) (evs : List Ev) : run c t evs = evs.foldlM (step? c) t := by
  fun_induction run c t evs <;> simp [*]

theorem inv_reachable (s0 : Nat) (evs : List Ev) {t : T} (h : run c (init s0) evs = some t) : Inv t :=
  StepSystem.foldlM_invariant evs (fun _ _ _ _ hi hs => inv_step hi hs) (inv_init s0)
    (run_eq_foldlM _ evs ▸ h)

/-- No timer in the initial state (the state set at start-up, before any transition). -/
theorem no_timer_in_initial (s0 s fv : Nat) {t : T} (h : step? c (init s0) (.setState s fv) = some t) :
    t.timer = none ∧ t.entryInitial = true := by
  simp [step?, init] at h; subst h; simp

/-- No timer when the state's timeout is zero. -/
theorem no_timer_when_zero {t t' : T} {s fv : Nat} (h : step? c t (.setState s fv) = some t')
    (hz : effTimeout c s fv = 0) : t'.timer = none := by
  cases step_cases h with
  | first => rfl
  | enter => simp [hz]

/-- Every transition re-arms: the old timer is dropped and the deadline counts from NOW. -/
theorem rearm_on_every_transition {t t' : T} {s fv : Nat} (hs : t.initialSet = true)
    (h : step? c t (.setState s fv) = some t') :
    t'.timer = (if effTimeout c s fv > 0 then some (t.now + effTimeout c s fv) else none) ∧
    t'.entered = t.now := by
  cases step_cases h with
  | first _ hn => simp [hs] at hn
  | enter => exact ⟨rfl, rfl⟩

/-- A timeout error is reported only if the current state was entered by a transition, has a
    positive timeout, and has been held for at least that long without any transition
    (for EVERY event sequence from start-up). -/
theorem fires_only_if_stalled (s0 : Nat) (evs : List Ev) {t t' : T}
    (h : run c (init s0) evs = some t) (hf : step? c t .fire = some t') :
    t.entryInitial = false ∧ t.armedWith > 0 ∧ t.entered + t.armedWith ≤ t.now := by
  cases step_cases hf with
  | fire hdl hl =>
    rw [inv_reachable s0 evs h] at hdl
    split at hdl
    · next hc =>
      cases hdl
      exact ⟨hc.1, hc.2.1, hl⟩
    · cases hdl

/-- Conversely: in a state entered by a transition with timeout `d > 0`, once `d` has elapsed
    without a transition the timeout error is enabled (it WILL be reported: the only other
    enabled stateLoop actions are further transitions, i.e. the conversation progressing). -/
theorem fires_when_stalled (s0 : Nat) (evs : List Ev) {t : T}
    (h : run c (init s0) evs = some t) (he : t.entryInitial = false) (hp : t.armedWith > 0)
    (hnf : t.fired = false) (hl : t.entered + t.armedWith ≤ t.now) :
    (step? c t .fire).isSome = true := by
  have hi := inv_reachable s0 evs h
  rw [Inv, if_pos ⟨he, hp, hnf⟩] at hi
  simp [step?, hi, hl, hnf]

/-- No timeout while the conversation progresses within the limits: a timer never fires before
    its deadline. -/
theorem no_fire_before_deadline (s0 : Nat) (evs : List Ev) {t : T}
    (h : run c (init s0) evs = some t) (hl : t.now < t.entered + t.armedWith) :
    step? c t .fire = none :=
  Option.eq_none_iff_forall_ne_some.mpr fun t' hf =>
    absurd (fires_only_if_stalled s0 evs h hf).2.2 (by omega)

/-! ### the timeout table (regenerated from the running code) against the network specification -/
open GV.Spec.Conformance in
/-- timeouts of corresponding states agree: fixed value, or same random range -/
def timeoutsAgree (e : Entry) : Bool :=
  e.rel.all (fun pq =>
    match e.impl.stateOf pq.1, e.spec.stateOf pq.2 with
    | some a, some b => a.timeoutMs == b.timeoutMs && a.timeoutFunc == b.timeoutFunc &&
                        a.tfMinMs == b.tfMinMs && a.tfMaxMs == b.tfMaxMs
    | _, _ => false)

open GV.Spec.Conformance in
/-- machines for which the network specification fixes the timeouts: the Cardano protocols -/
def cardano (e : Entry) : Bool :=
  ["handshake-ntn", "handshake-ntc", "chainsync-ntn", "chainsync-ntc", "blockfetch", "txsubmission",
   "keepalive", "peersharing", "localtxsubmission", "localtxmonitor", "localstatequery"].any
    (fun p => e.impl.name == p ++ "/server")

/-- Server side of every Cardano mini-protocol: the per-state timeouts of the running code are
    exactly those of the network specification (node-to-node table; none for node-to-client). -/
theorem server_timeouts_match_spec :
    ∀ e ∈ GV.Spec.Conformance.table, cardano e = true → timeoutsAgree e = true := by
  -- the numbers are compared first, so that names are compared only where the timeouts differ
  have h : ∀ e ∈ GV.Spec.Conformance.table, timeoutsAgree e = true ∨ cardano e = false := by
    decide +kernel
  exact fun e he hc => (h e he).resolve_right (by simp [hc])

/-- the tx-submission, handshake and node-to-client chain-sync clients use the specification's
    values too -/
theorem client_timeouts_match_spec_where_not_configurable :
    ∀ e ∈ GV.Spec.Conformance.table,
      (e.impl.name == "txsubmission/client" || e.impl.name == "handshake-ntn/client" ||
       e.impl.name == "handshake-ntc/client" || e.impl.name == "chainsync-ntc/client") = true →
      timeoutsAgree e = true := by
  have h : ∀ e ∈ GV.Spec.Conformance.table, timeoutsAgree e = true ∨
      (e.impl.name == "txsubmission/client" || e.impl.name == "handshake-ntn/client" ||
       e.impl.name == "handshake-ntc/client" || e.impl.name == "chainsync-ntc/client") = false := by
    decide +kernel
  exact fun e he hc => (h e he).resolve_right (by simp [hc])

/-- terminal states never have a timeout, in any protocol, mode or role -/
theorem no_timeout_in_terminal :
    ∀ m ∈ GV.Gen.StateMaps.all, ∀ s ∈ m.states, s.agency = 0 → s.timeoutMs = 0 ∧ s.timeoutFunc = false := by
  decide

/-! ### the closed form `GV.Timeout.arms` equals the timer model run -/

theorem setState_enabled (s fv : Nat) {t : T} (hf : t.fired = false) :
    ∃ t', step? c t (.setState s fv) = some t' ∧ t'.fired = false ∧ t'.initialSet = true := by
  by_cases hi : t.initialSet = true <;> simp [step?, hf, hi]

/-- the timer model along a path of the machine, one setState per transition: it never gets stuck,
    and the timer left at the end is the one armed on entering the last state -/
theorem run_along (m : Machine) (path : List Sym) : ∀ (s q : Nat) (t : T), m.run s path = some q →
    t.fired = false → t.initialSet = true →
    ∃ t', run (cfgOf m) t ((statesAlong m s path).map fun q => Ev.setState q (funcValue m q)) = some t' ∧
      t'.timer.isSome = (match path with
        | [] => t.timer.isSome
        | _ :: _ => decide (effTimeout (cfgOf m) q (funcValue m q) > 0)) := by
  induction path with
  | nil => intro s q t _ _ _; exact ⟨t, rfl, rfl⟩
  | cons a rest ih =>
    intro s q t h hf hi
    simp only [Machine.run] at h
    cases hs : m.step s a with
    | none => simp [hs] at h
    | some s' =>
      rw [hs] at h
      obtain ⟨t1, hst, hf1, hi1⟩ := setState_enabled (c := cfgOf m) s' (funcValue m s') hf
      obtain ⟨t', h1, h2⟩ := ih s' q t1 h hf1 hi1
      refine ⟨t', by simpa only [statesAlong, hs, List.map_cons, run, hst] using h1, ?_⟩
      rw [h2]
      cases rest with
      | nil =>
        cases h
        rw [(rearm_on_every_transition hi hst).1]
        by_cases hp : effTimeout (cfgOf m) q (funcValue m q) > 0 <;> simp [hp]
      | cons _ _ => rfl

theorem stOf_func_pos (m : Machine)
    (hfn : ∀ s ∈ m.states, s.timeoutFunc = true → s.tfMaxMs > 0) (q : Nat)
    (h : (stOf m q).timeoutFunc = true) : (stOf m q).tfMaxMs > 0 := by
  unfold stOf at h ⊢
  cases hq : m.stateOf q with
  | none => simp [hq] at h
  | some st => rw [hq] at h; exact hfn st (Machine.stateOf_mem hq) h

/-- `arms` (the driver `GV.Drv.C14`'s fallback for `armed=`) is exactly what the timer model
    computes (`timerAfter`: start-up, then one `setState` per transition of the path), provided a
    TimeoutFunc never returns 0 (checked on the regenerated tables below). -/
theorem arms_eq_model (m : Machine)
    (hfn : ∀ s ∈ m.states, s.timeoutFunc = true → s.tfMaxMs > 0)
    (path : List Sym) (q : Nat) (h : m.run m.init path = some q) :
    (timerAfter m path).map (fun t => t.timer.isSome) = some (arms m q path.isEmpty) := by
  obtain ⟨t0, h0, hf0, hi0⟩ :=
    setState_enabled (c := cfgOf m) m.init (funcValue m m.init) (t := init m.init) rfl
  obtain ⟨t', h1, h2⟩ := run_along m path m.init q t0 h hf0 hi0
  simp only [timerAfter, run, h0, h1, Option.map_some, h2]
  cases path with
  | nil => simp [(no_timer_in_initial m.init m.init _ h0).1, arms]
  | cons a rest =>
    -- effective timeout of q is positive iff q has a timeout at all
    have key := stOf_func_pos m hfn q
    simp only [effTimeout, cfgOf, funcValue, arms, List.isEmpty_cons, Bool.not_false, Bool.true_and]
    by_cases hft : (stOf m q).timeoutFunc = true <;> simp [hft, key]

/-- no TimeoutFunc of the running code returns 0 (sampled maximum, rounded up to seconds) -/
theorem gen_timeoutFunc_positive :
    ∀ m ∈ GV.Gen.StateMaps.all, ∀ s ∈ m.states, s.timeoutFunc = true → s.tfMaxMs > 0 := by decide

/-! ### non-vacuity -/
def cfgEx : Cfg := { timeoutOf := fun q => if q = 2 then 10 else 0, hasFunc := fun _ => false }
example : ((run cfgEx (init 1) [.setState 1 0, .tick 100, .setState 2 0, .tick 10, .fire]).map (·.fired)) = some true := by
  decide
example : (run cfgEx (init 1) [.setState 1 0, .tick 100, .setState 2 0, .tick 9, .fire]).isNone = true := by decide
example : (run cfgEx (init 1) [.setState 1 0, .tick 100, .fire]).isNone = true := by decide

end GV.Props.C14
