import GV.Model.ValueConservation
import GV.Gen.RuleLists
import GV.Gen.G1Rules
import GV.Proofs.Ladder
/-!
C27 — Value is conserved by every accepted transaction.

For every era, validation accepts a transaction's balance only if consumed value
equals produced value, coin and every asset separately, per the ledger formula.
Consumed is inputs + withdrawals + deposit refunds + mint; produced is outputs +
fee + new deposits (stake, pool, DRep, proposals) + treasury donation.
-/
namespace GV.Props.C27
open GV.Model.ValueConservation

/-- certificates that exist before Conway -/
def legacyCert : Cert → Bool
  | .sreg | .sdereg | .sdeleg | .pret | .preg _ _ | .pregRetiring _ | .genesis | .mir _ => true
  | _ => false

/-- accepted by the rules modelled here: the conservation rule and, in Conway and
    Dijkstra, the certificate deposit rule, with every input resolvable
    (BadInputs, see `badInputs_rejects_missing`) -/
def accepted (t : Tx) : Bool :=
  decide (rule t = .ok) && !certDepositsBad t && !badInputs t

/-- Full statement: what is accepted is conserved per the ledger formula. -/
def C27_full : Prop := ∀ t : Tx, accepted t = true → specConserved t = true
def C27_full_on (t : Tx) : Prop := accepted t = true → specConserved t = true
instance (t : Tx) : Decidable (C27_full_on t) := by unfold C27_full_on; infer_instance

theorem countNew_gen (seen : List Nat) (l : List Cert) :
    countNew seen l = ((newPoolIds l).filter (fun a => !seen.contains a)).eraseDups.length := by
  fun_induction countNew seen l with
  | case1 seen =>
    -- no certificate left
    rfl
  | case2 seen id rest hs ih =>
    -- a new pool met before: the filter drops it
    simpa only [newPoolIds, List.filter_cons, hs, Bool.not_true, Bool.false_eq_true, if_false] using ih
  | case3 seen id rest hs ih =>
    -- a new pool met for the first time: counted once, and `eraseDups` drops its later occurrences
    have hf : ∀ a, (!(id :: seen).contains a) = (!(a == id) && !seen.contains a) := fun a => by
      simp only [List.contains_cons, Bool.not_or]
    simp only [ih, hf, newPoolIds, List.filter_cons, hs, Bool.not_false, if_true, List.eraseDups_cons,
      List.length_cons, List.filter_filter, Nat.add_comm]
  | case4 seen c rest hc ih =>
    -- any other certificate
    simpa only [newPoolIds, hc] using ih

theorem countNew_eq (l : List Cert) : countNew [] l = (newPoolIds l).eraseDups.length := by
  rw [countNew_gen [] l, List.filter_eq_self.mpr fun a _ => by simp]

theorem depositLegacy_eq (kd dd : Nat) {c : Cert} (h : legacyCert c = true) :
    depositLegacy kd c = specDepositNoPool kd dd c := by
  -- a legacy certificate: both sides compute the same; any other: `h` is `false = true`
  cases c <;> first | rfl | cases h

theorem refundLegacy_eq (kd : Nat) {c : Cert} (h : legacyCert c = true) :
    refundLegacy kd c = specRefund kd c := by
  cases c <;> first | rfl | cases h

theorem depositConway_eq {kd dd : Nat} {c : Cert} (h : depositOff kd dd c = false) :
    depositConway kd c = specDepositNoPool kd dd c := by
  cases c <;> simp_all [depositConway, specDepositNoPool, depositOff]

theorem refundConway_eq {kd dd : Nat} {c : Cert} (h : depositOff kd dd c = false)
    (hu : unregOff c = false) : refundConway kd c = specRefund kd c := by
  cases c <;> simp_all [refundConway, specRefund, depositOff, unregOff]

theorem tok_eq (t : Tx) (hres : ∀ i ∈ t.ins, i.resolvable = true) (hz : zmint t = 0) (id : Nat) :
    consumedTok t id = specConsumedTok t id := by
  unfold consumedTok specConsumedTok insTok
  rw [List.filter_eq_self.mpr hres]
  by_cases h0 : id = 0
  · subst h0; unfold zmint at hz; simp [hz]
  · simp [h0]

theorem tokOk_eq (t : Tx) (hres : ∀ i ∈ t.ins, i.resolvable = true) (hz : zmint t = 0) :
    tokOk t = (ids t).all (fun id => decide (specConsumedTok t id = (outsTok t id : Int))) := by
  unfold tokOk
  exact List.all_congr rfl (fun id => by rw [tok_eq t hres hz id])

theorem rule_ok_iff (t : Tx) :
    rule t = .ok ↔
      (isConway t && t.certs.any zeroAmount) = false ∧ consumedCoin t = producedCoin t ∧
      (hasAssets t = true → tokOk t = true) := by
  -- one rung at a time: no exit value is `.ok`, so each guard is false
  simp only [rule, ite_eq_of_ne, ne_eq, reduceCtorEq, not_false_eq_true, and_true]
  simp

theorem spec_iff (t : Tx) :
    specConserved t = true ↔
      specConsumedCoin t = specProducedCoin t ∧
      (ids t).all (fun id => decide (specConsumedTok t id = (outsTok t id : Int))) = true := by
  unfold specConserved
  simp only [Bool.and_eq_true, decide_eq_true_eq]

/-! ### the property theorems -/

/-- The rule is the formula wherever its two coin sums are the formula's and its token test is
    (from Mary on: no mint entry under the all-zero policy id; before: no tokens at all). -/
theorem conserved_iff (t : Tx) (hres : ∀ i ∈ t.ins, i.resolvable = true)
    (hzero : 6 ≤ t.era → t.certs.any zeroAmount = false)
    (hcoin : consumedCoin t = specConsumedCoin t ∧ producedCoin t = specProducedCoin t)
    (hz : 3 ≤ t.era ∧ zmint t = 0 ∨ ids t = []) :
    rule t = .ok ↔ specConserved t = true := by
  have hzero : (isConway t && t.certs.any zeroAmount) = false := by simpa [isConway] using hzero
  rw [rule_ok_iff, spec_iff, hcoin.1, hcoin.2]
  rcases hz with ⟨h3, hz⟩ | hn
  · simp [tokOk_eq t hres hz, hzero, hasAssets, h3]
  · simp [tokOk, hzero, hn]

theorem coin_legacy (t : Tx) (h5 : t.era ≤ 5) (hres : ∀ i ∈ t.ins, i.resolvable = true)
    (hleg : ∀ c ∈ t.certs, legacyCert c = true) (hnc : sumNat t.props = 0 ∧ t.don = 0) :
    consumedCoin t = specConsumedCoin t ∧ producedCoin t = specProducedCoin t := by
  unfold consumedCoin producedCoin specConsumedCoin specProducedCoin insCoin
  rw [List.filter_eq_self.mpr hres, countNew_eq,
    List.map_congr_left (fun c hc => depositLegacy_eq t.kd t.dd (hleg c hc)),
    List.map_congr_left (fun c hc => refundLegacy_eq t.kd (hleg c hc))]
  simp [isConway, show ¬ 6 ≤ t.era by omega, hnc.1, hnc.2]

theorem coin_conway (t : Tx) (h6 : 6 ≤ t.era) (hres : ∀ i ∈ t.ins, i.resolvable = true)
    (hdep : certDepositsBad t = false) (hun : clsCertAmount t = false) (hz : zmint t = 0) :
    consumedCoin t = specConsumedCoin t ∧ producedCoin t = specProducedCoin t := by
  have hamt : ∀ c ∈ t.certs, depositOff t.kd t.dd c = false := by
    simpa [certDepositsBad, isConway, h6] using hdep
  have hu : ∀ c ∈ t.certs, unregOff c = false := by simpa [clsCertAmount] using hun
  unfold consumedCoin producedCoin specConsumedCoin specProducedCoin insCoin
  rw [List.filter_eq_self.mpr hres, countNew_eq,
    List.map_congr_left (fun c hc => depositConway_eq (hamt c hc)),
    List.map_congr_left (fun c hc => refundConway_eq (hamt c hc) (hu c hc))]
  simp [isConway, h6, hz]

/-- Shelley and Allegra (coin only; these eras have no assets): with every input
    resolvable the rule passes iff consumed = produced per the formula. -/
theorem conserved_iff_shelley (t : Tx) (he : t.era ≤ 2)
    (hres : ∀ i ∈ t.ins, i.resolvable = true)
    (hleg : ∀ c ∈ t.certs, legacyCert c = true)
    (hnotok : ids t = [])
    (hnc : sumNat t.props = 0 ∧ t.don = 0) :
    rule t = .ok ↔ specConserved t = true :=
  conserved_iff t hres (fun h6 => absurd h6 (by omega)) (coin_legacy t (by omega) hres hleg hnc) (.inr hnotok)

/-- Mary, Alonzo, Babbage: coin and every asset separately. -/
theorem conserved_iff_mary (t : Tx) (he : 3 ≤ t.era ∧ t.era ≤ 5)
    (hres : ∀ i ∈ t.ins, i.resolvable = true)
    (hleg : ∀ c ∈ t.certs, legacyCert c = true)
    (hz : zmint t = 0)
    (hnc : sumNat t.props = 0 ∧ t.don = 0) :
    rule t = .ok ↔ specConserved t = true :=
  conserved_iff t hres (fun h6 => absurd h6 (by omega)) (coin_legacy t he.2 hres hleg hnc) (.inl ⟨he.1, hz⟩)

/-- Conway and Dijkstra: when the certificate deposit rule passes, the stake
    deregistration refunds are the recorded deposits (the one thing no listed rule can
    check), no certificate amount is zero and the mint field has no entry under the
    all-zero policy id, the rule passes iff consumed = produced per the formula. -/
theorem conserved_iff_conway (t : Tx) (he : 6 ≤ t.era)
    (hres : ∀ i ∈ t.ins, i.resolvable = true)
    (hdep : certDepositsBad t = false)
    (hun : clsCertAmount t = false)
    (hzero : t.certs.any zeroAmount = false)
    (hz : zmint t = 0) :
    rule t = .ok ↔ specConserved t = true :=
  conserved_iff t hres (fun _ => hzero) (coin_conway t he hres hdep hun hz) (.inl ⟨by omega, hz⟩)

/-- The part of the full statement that holds in every era: outside the two recorded
    input classes, whatever is accepted is conserved per the ledger formula. -/
theorem C27_partial (t : Tx) (he : 1 ≤ t.era)
    (hleg : t.era ≤ 5 → (∀ c ∈ t.certs, legacyCert c = true) ∧ sumNat t.props = 0 ∧ t.don = 0)
    (hnotok : t.era ≤ 2 → ids t = [])
    (h1 : clsCertAmount t = false) (h3 : clsZeroPolicyMint t = false) :
    C27_full_on t := by
  intro hacc
  unfold accepted at hacc
  simp only [Bool.and_eq_true, decide_eq_true_eq, Bool.not_eq_true'] at hacc
  obtain ⟨⟨hok, hdep⟩, hbad⟩ := hacc
  have hres : ∀ i ∈ t.ins, i.resolvable = true := by
    intro i hi
    have := List.any_eq_false.mp hbad i hi
    simpa using this
  have hz : zmint t = 0 := by simpa [clsZeroPolicyMint] using h3
  -- the token side changes at Mary, the coin side at Conway
  have htok : 3 ≤ t.era ∧ zmint t = 0 ∨ ids t = [] := by
    by_cases e2 : t.era ≤ 2
    · exact .inr (hnotok e2)
    · exact .inl ⟨by omega, hz⟩
  have hzero : 6 ≤ t.era → t.certs.any zeroAmount = false := fun h6 => by
    simpa [isConway, h6] using ((rule_ok_iff t).1 hok).1
  refine (conserved_iff t hres hzero ?_ htok).1 hok
  by_cases e5 : t.era ≤ 5
  · exact coin_legacy t e5 hres (hleg e5).1 (hleg e5).2
  · exact coin_conway t (by omega) hres hdep h1 hz

/-- Unresolvable inputs are skipped by the conservation rule; the listed BadInputs rule
    rejects every transaction that has one. -/
theorem badInputs_rejects_missing (t : Tx) (h : ∃ i ∈ t.ins, i.resolvable = false) :
    badInputs t = true := by
  obtain ⟨i, hi, hr⟩ := h
  exact List.any_eq_true.mpr ⟨i, hi, by simp [hr]⟩

/-- `rule` and `specConserved` do not read the phase-2 fields (in the ledger's UTXO rule the check
    precedes the validity branch).  True by `rfl`: it records how the model is written. -/
theorem phase2_fields_irrelevant (t : Tx) (v : Bool) (c : List In) (r : Option Out) (tc : Option Nat) :
    rule { t with valid := v, coll := c, collRet := r, totalColl := tc } = rule t ∧
    specConserved { t with valid := v, coll := c, collRet := r, totalColl := tc } = specConserved t :=
  ⟨rfl, rfl⟩

/-- The verdicts of two validations of one transaction.  In the model they are equal by
    construction (`revalidation_same` is `rfl`); for the Go code this is tested, not proved: the
    harness validates every decoded transaction twice and compares verdicts, outputs, Produced(),
    stored bytes, mint and the state's UTxOs before and after (the `pure=` field of the op). -/
def validateTwice (t : Tx) : (Verdict × Bool × Bool) × (Verdict × Bool × Bool) :=
  ((rule t, badInputs t, certDepositsBad t), (rule t, badInputs t, certDepositsBad t))

theorem revalidation_same (t : Tx) : (validateTwice t).2 = (validateTwice t).1 := rfl

/-! ### across transactions: what is produced is exactly the outputs -/

/-- The UTxO a phase-2-valid transaction produces is exactly its outputs, in order,
    numbered from 0. -/
theorem produced_is_outputs (t : Tx) (hv : t.valid = true) :
    (producedUtxo t).map (·.2) = t.outs ∧ (producedUtxo t).map (·.1) = List.range t.outs.length := by
  unfold producedUtxo
  simp only [hv, if_true, List.map_map]
  constructor
  · simp [Function.comp_def, List.zipIdx_map_fst]
  · simp [Function.comp_def, List.zipIdx_map_snd, List.range_eq_range']

/-- Spending a set of UTxO entries into outputs of the same values balances — rule and
    ledger formula agree, in every era, for any coin amounts and asset bundles. -/
theorem spendAll_balances (t : Tx) (p : List Out) :
    rule (spendAll t p) = .ok ∧ specConserved (spendAll t p) = true ∧ badInputs (spendAll t p) = false := by
  have hres : ∀ i ∈ (spendAll t p).ins, i.resolvable = true := by
    intro i hi
    simp only [spendAll, List.mem_map] at hi
    obtain ⟨o, _, rfl⟩ := hi; rfl
  have hz : zmint (spendAll t p) = 0 := by simp [zmint, spendAll, mintQty]
  have hspec : specConserved (spendAll t p) = true := by
    rw [spec_iff]
    constructor
    · simp [specConsumedCoin, specProducedCoin, spendAll, sumNat, outsCoin, newPoolIds,
        List.map_map, Function.comp_def]
    · rw [List.all_eq_true]
      intro id _
      simp [specConsumedTok, spendAll, mintQty, outsTok, sumNat, List.map_map, Function.comp_def]
  refine ⟨?_, hspec, ?_⟩
  · rw [rule_ok_iff, tokOk_eq _ hres hz]
    refine ⟨by simp [spendAll], ?_, fun _ => (spec_iff _).1 hspec |>.2⟩
    unfold consumedCoin producedCoin insCoin
    rw [List.filter_eq_self.mpr hres, hz]
    simp [spendAll, sumNat, outsCoin, countNew, List.map_map, Function.comp_def]
  · simp only [badInputs]
    rw [List.any_eq_false]
    intro i hi
    simp [hres i hi]

/-- The follow-up transaction of the harness op — spend everything `t` produced into
    outputs carrying the values `t`'s outputs state — is accepted and conserved. If
    validation of `t` changed what `t` reports as produced, or `Produced()` is not the
    outputs, the real follow-up transaction does not balance: that is the `next=` field. -/
theorem followUp_balances (t : Tx) :
    rule (followUp t) = .ok ∧ specConserved (followUp t) = true ∧ badInputs (followUp t) = false :=
  spendAll_balances t _

theorem followUp_outputs (t : Tx) (hv : t.valid = true) : (followUp t).outs = t.outs := by
  unfold followUp spendAll; exact (produced_is_outputs t hv).1

/-! ### witnesses of the recorded findings (the code departs from the formula) -/

def wCertAmount : Tx where
  era := 6
  kd := 2000000
  pd := 500000000
  dd := 500000000
  fee := 0
  mint := []
  don := 0
  ins := [⟨true, 1000000, []⟩]
  outs := [⟨1001000000, []⟩]
  wds := []
  certs := [.unreg 1000000000 2000000]
  props := []

def wAdaMint : Tx where
  era := 6
  kd := 2000000
  pd := 500000000
  dd := 500000000
  fee := 0
  mint := [(0, 7000000)]
  don := 0
  ins := []
  outs := [⟨7000000, []⟩]
  wds := []
  certs := []
  props := []

def wZeroPolicySkip : Tx where
  era := 3
  kd := 2000000
  pd := 500000000
  dd := 0
  fee := 0
  mint := [(0, 5)]
  don := 0
  ins := [⟨true, 10, []⟩]
  outs := [⟨10, []⟩]
  wds := []
  certs := []
  props := []

/-- repaired by a `fix:` commit: a pool registered twice pays once -/
def wDupPool : Tx where
  era := 1
  kd := 2000000
  pd := 500000000
  dd := 0
  fee := 0
  mint := []
  don := 0
  ins := [⟨true, 1000000000, []⟩]
  outs := []
  wds := []
  certs := [.preg true 10, .preg true 10]
  props := []

/-- repaired by a `fix:` commit: a registration naming 1 lovelace is rejected by the deposit rule -/
def wRegOne : Tx where
  era := 7
  kd := 2000000
  pd := 500000000
  dd := 500000000
  fee := 0
  mint := []
  don := 0
  ins := [⟨true, 1000000, []⟩]
  outs := [⟨999999, []⟩]
  wds := []
  certs := [.reg 1]
  props := []

def exShelley : Tx where
  era := 1
  kd := 2
  pd := 5
  dd := 0
  fee := 1
  mint := []
  don := 0
  ins := [⟨true, 10, []⟩]
  outs := [⟨2, []⟩]
  wds := []
  certs := [.sreg, .preg true 3, .preg true 3]
  props := []

def exConway : Tx where
  era := 6
  kd := 2
  pd := 5
  dd := 3
  fee := 1
  mint := [(1, 4), (2, -1)]
  don := 1
  ins := [⟨true, 20, [(1, 1), (2, 3)]⟩]
  outs := [⟨10, [(1, 5)]⟩, ⟨0, [(2, 2)]⟩]
  wds := [2]
  certs := [.reg 2, .dreg 3, .unreg 2 2, .dunreg 3 3]
  props := [10]
  valid := false
  coll := [⟨true, 5, []⟩]

/-- class `cert-amount`: a Conway stake deregistration certificate that names an
    arbitrary refund balances a transaction that pays out 10^9 more than it spends, and
    no listed rule can compare the refund with the recorded deposit. -/
theorem C27_witness_cert_amount : ¬ C27_full_on wCertAmount := by decide

/-- class `zero-policy-mint`: Conway adds a mint entry under the all-zero policy id with
    empty name to the consumed *coin* (7 ada out of nothing). -/
theorem C27_witness_ada_mint : ¬ C27_full_on wAdaMint := by decide

/-- same class, Mary..Babbage: the entry is skipped on the consumed side, so minting it
    without any output holding it passes. -/
theorem C27_witness_zero_policy_skip : ¬ C27_full_on wZeroPolicySkip := by decide

/-- the witnesses of the two defects repaired in /repo are rejected -/
theorem repaired_witnesses : accepted wDupPool = false ∧ accepted wRegOne = false := by decide

theorem C27_full_fails : ¬ C27_full := fun h => C27_witness_cert_amount (h wCertAmount)

/-- (R) the rules are listed in every era they belong to, and Allegra / Dijkstra forward
    to Shelley / Conway. -/
theorem rules_listed :
    (∀ l ∈ [GV.Gen.RuleLists.shelley, GV.Gen.RuleLists.allegra, GV.Gen.RuleLists.mary,
            GV.Gen.RuleLists.alonzo, GV.Gen.RuleLists.babbage, GV.Gen.RuleLists.conway,
            GV.Gen.RuleLists.dijkstra],
      "UtxoValidateValueNotConservedUtxo" ∈ l) ∧
    (∀ l ∈ [GV.Gen.RuleLists.shelley, GV.Gen.RuleLists.allegra, GV.Gen.RuleLists.mary,
            GV.Gen.RuleLists.alonzo, GV.Gen.RuleLists.babbage, GV.Gen.RuleLists.conway],
      "UtxoValidateBadInputsUtxo" ∈ l) ∧
    "conway.UtxoValidateBadInputsUtxo" ∈ GV.Gen.RuleLists.dijkstra ∧
    "UtxoValidateCertificateDeposits" ∈ GV.Gen.RuleLists.conway ∧
    "conway.UtxoValidateCertificateDeposits" ∈ GV.Gen.RuleLists.dijkstra ∧
    GV.Gen.G1Rules.valueConservationDelegation =
      [("allegra", "shelley.UtxoValidateValueNotConservedUtxo"),
       ("dijkstra", "conway.UtxoValidateValueNotConservedUtxo")] := by
  -- membership by finding the name; no two names are ever compared for inequality
  simp only [List.forall_mem_cons, List.not_mem_nil, false_imp_iff, implies_true, and_true]
  simp only [GV.Gen.RuleLists.shelley, GV.Gen.RuleLists.allegra, GV.Gen.RuleLists.mary,
    GV.Gen.RuleLists.alonzo, GV.Gen.RuleLists.babbage, GV.Gen.RuleLists.conway,
    GV.Gen.RuleLists.dijkstra, List.mem_cons, true_or, or_true, true_and]
  rfl

/-! ### (R) the certificate cases of the Go rule bodies, regenerated on every run -/

/-- every certificate constructor of the model under the name of its Go type, built with
    the probe amount 5 (recorded deposit 7) -/
def namedCerts : List (String × Cert) :=
  [("StakeRegistrationCertificate", .sreg), ("StakeDeregistrationCertificate", .sdereg),
   ("StakeDelegationCertificate", .sdeleg), ("PoolRetirementCertificate", .pret),
   ("VoteDelegationCertificate", .vdeleg), ("PoolRegistrationCertificate", .preg true 1),
   ("PoolRegistrationCertificate", .preg false 1), ("PoolRegistrationCertificate", .pregRetiring 1),
   ("GenesisKeyDelegationCertificate", .genesis), ("MoveInstantaneousRewardsCertificate", .mir 5),
   ("RegistrationCertificate", .reg 5), ("DeregistrationCertificate", .unreg 5 7),
   ("StakeRegistrationDelegationCertificate", .srd 5), ("VoteRegistrationDelegationCertificate", .vrd 5),
   ("StakeVoteRegistrationDelegationCertificate", .svrd 5), ("RegistrationDrepCertificate", .dreg 5),
   ("DeregistrationDrepCertificate", .dunreg 5 7)]

/-- which quantity a probed value is: KeyDeposit is probed with 2, PoolDeposit with 3, the
    certificate's own amount with 5 -/
def srcName (v : Nat) : Option String :=
  if v = 2 then some "KeyDeposit" else if v = 3 then some "PoolDeposit"
  else if v = 5 then some "Amount" else none

/-- the table the model's refund / deposit functions induce -/
def modelCases (conway : Bool) : List (String × String × String) :=
  (namedCerts.filterMap fun (n, c) =>
    (srcName (if conway then refundConway 2 c else refundLegacy 2 c)).map fun s => ("consumed", n, s)) ++
  (namedCerts.filterMap fun (n, c) =>
    (srcName ((if conway then depositConway 2 c else depositLegacy 2 c) + 3 * countNew [] [c])).map
      fun s => ("produced", n, s))

/-- The certificate types each Go rule body adds to the consumed / produced side, and
    where it takes the amount from (KeyDeposit, PoolDeposit, the certificate's Amount),
    are exactly the model's — in all five rule bodies, as they stand in the source now. -/
theorem cert_cases_match :
    (∀ l ∈ [GV.Gen.G1Rules.vcCases_shelley, GV.Gen.G1Rules.vcCases_mary, GV.Gen.G1Rules.vcCases_alonzo,
            GV.Gen.G1Rules.vcCases_babbage],
      (∀ x ∈ l, x ∈ modelCases false) ∧ (∀ x ∈ modelCases false, x ∈ l)) ∧
    (∀ x ∈ GV.Gen.G1Rules.vcCases_conway, x ∈ modelCases true) ∧
    (∀ x ∈ modelCases true, x ∈ GV.Gen.G1Rules.vcCases_conway) := by
  decide +kernel

/-- (R) "new pool" in every rule body is: the registration returned by
    `ls.PoolCurrentState` is nil and the pool was not seen earlier in the transaction —
    the retirement epoch (second result) is not even bound, so a pool with a pending
    retirement is a registered pool (`countNew` / `pregRetiring` in the model). -/
theorem pool_deposit_guard :
    GV.Gen.G1Rules.poolDepositGuard =
      ["shelley", "mary", "alonzo", "babbage", "conway"].map fun e =>
        (e, "reg,_,err", "_, seen := newPools[tmpCert.Operator]", "reg == nil && !seen") :=
  rfl

/-- a registered pool — retiring or not — never pays a deposit; only a pool unknown to the
    state does, once -/
theorem pool_states (kd pd : Nat) (id : Nat) :
    countNew [] [.pregRetiring id] = 0 ∧ countNew [] [.preg false id] = 0 ∧
    countNew [] [.preg true id] = 1 ∧ countNew [] [.preg true id, .pregRetiring id, .preg true id] = 1 ∧
    depositLegacy kd (.pregRetiring id) = 0 ∧ depositConway kd (.pregRetiring id) = 0 ∧
    newPoolIds [.pregRetiring id, .preg false id] = [] := by
  simp [countNew, depositLegacy, depositConway, newPoolIds]

/-- MIR and genesis-delegation certificates leave the balance alone, whatever the amount moved
    between the pots: each counts 0 as refund, as deposit and as new pool, in the rule and in the
    formula. -/
theorem mir_genesis_neutral (kd dd a : Nat) :
    refundLegacy kd (.mir a) = 0 ∧ depositLegacy kd (.mir a) = 0 ∧ specRefund kd (.mir a) = 0 ∧
    specDepositNoPool kd dd (.mir a) = 0 ∧ refundLegacy kd .genesis = 0 ∧ depositLegacy kd .genesis = 0 ∧
    specRefund kd .genesis = 0 ∧ specDepositNoPool kd dd .genesis = 0 ∧
    countNew [] [.mir a, .genesis] = 0 ∧ newPoolIds [.mir a, .genesis] = [] := by
  simp [refundLegacy, depositLegacy, specRefund, specDepositNoPool, countNew, newPoolIds]

/-- certificate builders by Go type name: amount `a`, recorded deposit 7 -/
def namedBuilders : List (String × (Nat → Cert)) :=
  [("StakeRegistrationCertificate", fun _ => .sreg), ("StakeDeregistrationCertificate", fun _ => .sdereg),
   ("PoolRegistrationCertificate", fun _ => .preg true 1),
   ("RegistrationCertificate", .reg), ("DeregistrationCertificate", fun a => .unreg a 7),
   ("StakeRegistrationDelegationCertificate", .srd), ("VoteRegistrationDelegationCertificate", .vrd),
   ("StakeVoteRegistrationDelegationCertificate", .svrd), ("RegistrationDrepCertificate", .dreg),
   ("DeregistrationDrepCertificate", fun a => .dunreg a 7)]

/-- what the model's `depositOff` compares a certificate's amount with, found by probing
    (KeyDeposit 2, DRepDeposit 3, recorded deposit 7) -/
def modelDepositCases : List (String × String) :=
  namedBuilders.filterMap fun (n, mk) =>
    if !depositOff 2 3 (mk 2) && depositOff 2 3 (mk 3) && depositOff 2 3 (mk 7) then some (n, "KeyDeposit")
    else if !depositOff 2 3 (mk 3) && depositOff 2 3 (mk 2) && depositOff 2 3 (mk 7) then some (n, "DRepDeposit")
    else if !depositOff 2 3 (mk 7) && depositOff 2 3 (mk 2) && depositOff 2 3 (mk 3) then some (n, "Recorded")
    else none

/-- (R) the certificate deposit rule in the source compares exactly the certificate types
    the model says, each with the quantity the model says. -/
theorem deposit_rule_cases_match :
    (∀ x ∈ GV.Gen.G1Rules.depositRuleCases, x ∈ modelDepositCases) ∧
    (∀ x ∈ modelDepositCases, x ∈ GV.Gen.G1Rules.depositRuleCases) := by
  decide

/-- Non-vacuity: accepted transactions with certificates, several assets, proposals,
    a duplicate pool registration and phase-2 fields exist. -/
example : accepted exShelley = true ∧ specConserved exShelley = true := by decide
example : accepted exConway = true ∧ specConserved exConway = true := by decide

end GV.Props.C27
