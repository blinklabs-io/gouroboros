import GV.Model.Walkers
import GV.Proofs.Walkers
/-!
C02 — Decoders are total on arbitrary bytes (level: partial).

Proved here, for every byte string: the well-formedness machine terminates
within fuel linear in the input, consumes no more than the input, never
accepts an item that declares a length or count larger than the input, and the
hand-rolled byte walkers of cbor/decode.go never index outside their slice.
Not provable in Lean (only exercised by the correspondence run): absence of
panics / unbounded allocation inside fxamacker's reflection decoder, the typed
ledger/protocol decoders built on it, and the Go runtime.
Offsets and positions are `Nat`. Where the Go function takes an `offset int`
(`cborArrayHeaderSizeFromBytes`, `parseCollectionHeader`, `parseTagHeader`, all unexported) a
negative one would pass the `offset >= len(data)` test and panic at `data[offset]`; the callers
pass decoder positions. The nesting limit (256) is in no theorem here: the driver applies it to
the decoded tree, and C03 has it as a hypothesis.
-/
namespace GV.Props.C02
open GV.CborT GV.Model.Walkers GV.Proofs.Walkers

/-- Statement of the property over a decoder `d` observed as an outcome
    function: every input gives `ok`/`err` (never a panic, never divergence). The
    bound on allocation the property also asks for is not expressed here. Only the
    parts below are theorems. -/
def C02_full (outcome : Bytes → String) : Prop :=
  ∀ b, outcome b = "ok" ∨ outcome b = "err"

/-- Totality with a certificate: the machine either rejects, or returns a tree
    whose encoding is exactly the consumed prefix (≥ 1 byte, ≤ the input). -/
theorem wf_total (b : Bytes) :
    decode b = none ∨
    ∃ t r, decode b = some (t, r) ∧ b = enc t ++ r ∧ t.valid = true ∧
      0 < (enc t).length ∧ (enc t).length ≤ b.length := by
  cases h : decode b with
  | none => exact Or.inl rfl
  | some p =>
    obtain ⟨t, r⟩ := p
    obtain ⟨hb, hv⟩ := decode_sound h
    obtain ⟨_, hl⟩ := decode_consumes h
    exact Or.inr ⟨t, r, rfl, hb, hv, enc_length_pos t, by omega⟩

/-- Never loops: whatever any fuel accepts, the standard fuel `2·|b|+1` accepts, with the
    same answer (no accepted input needs a deeper recursion than that). -/
theorem wf_terminates (f : Nat) (b : Bytes) (t : Cbor) (r : Bytes) (h : dec f b = some (t, r)) :
    dec (2 * b.length + 1) b = some (t, r) :=
  dec_fuel_irrelevant h

/-- Memory follows the input, not the claims inside it: in an accepted item every
    declared string length, array count and map pair count is at most the number
    of input bytes (an inflated length field is always rejected). -/
theorem wf_claimed_le_len (b : Bytes) (t : Cbor) (r : Bytes) (h : decode b = some (t, r)) :
    maxClaim t ≤ b.length := by
  obtain ⟨_, hl⟩ := decode_consumes h
  have := maxClaim_le t
  omega

/-- Prefix-independence (a decoder never reads past the item it returns). -/
theorem wf_local (b : Bytes) (t : Cbor) (r : Bytes) (h : decode b = some (t, r)) (more : Bytes) :
    decode (b ++ more) = some (t, r ++ more) := by
  obtain ⟨hb, hv⟩ := decode_sound h
  rw [hb, List.append_assoc]; exact decode_enc t hv (r ++ more)

/-- `ArrayInfo` / `MapInfo` never index out of range. -/
theorem arrayInfo_no_oob (b : Bytes) : infoOf 0x80 b ≠ .oob ∧ infoOf 0xa0 b ≠ .oob :=
  ⟨infoOf_no_oob _ b, infoOf_no_oob _ b⟩

/-- `StreamDecoder.DecodeArrayHeader` / `DecodeMapHeader`, at any position. -/
theorem decodeHeader_no_oob (b : Bytes) (pos : Nat) :
    headerAt 0x80 b pos ≠ .oob ∧ headerAt 0xa0 b pos ≠ .oob :=
  ⟨headerAt_no_oob _ b pos, headerAt_no_oob _ b pos⟩

/-- `cborArrayHeaderSizeFromBytes` -/
theorem headerSize_no_oob (b : Bytes) (off : Nat) : headerSizeAt b off ≠ .oob :=
  headerSizeAt_no_oob b off

/-- `ListLength` / `DecodeIdFromList` fast paths (`cborData[0]`, `cborData[1]`). -/
theorem idFastPath_no_oob (b : Bytes) (n : Nat) :
    listLengthFast b ≠ .oob ∧ decodeIdFast b n ≠ .oob :=
  ⟨listLengthFast_no_oob b, decodeIdFast_no_oob b n⟩

/-- `StreamDecoder.RawBytes(offset, length)`: for all int64 arguments the final slice
    expression is in range (no panic), and an accepted request returns exactly the
    requested range — the wrap-around of `offset + length` is rejected, not sliced. -/
theorem rawBytes_safe (len offset length : Int) :
    rawBytes len offset length ≠ .oob ∧
    (isInt64 offset → isInt64 length → ∀ lo hi, rawBytes len offset length = .val (some (lo, hi)) →
      lo = offset ∧ hi = offset + length ∧ 0 ≤ lo ∧ hi ≤ len) :=
  ⟨rawBytes_no_oob len offset length, rawBytes_exact len offset length⟩

/-- the diagnostic parser's header readers (`parseCollectionHeader`, `parseTagHeader`) -/
theorem diagHeaders_no_oob (b : Bytes) (off : Nat) :
    collectionHeaderAt b off ≠ .oob ∧ tagHeaderAt b off ≠ .oob :=
  ⟨collectionHeaderAt_no_oob b off, tagHeaderAt_no_oob b off⟩

/-- `offset + length` can wrap to a negative `end`: `end > len` does not catch that, `end < offset` does -/
example : wrapS64 (9223372036854775807 + 1) = -9223372036854775808 := by decide
example : rawBytes 10 9223372036854775807 1 = .val none := by decide
example : rawBytes 10 2 3 = .val (some (2, 5)) := by decide
example : collectionHeaderAt [0x99, 0x01] 0 = .val none := by decide
example : tagHeaderAt [0xd9, 0x01, 0x02, 0x00] 0 = .val (some (258, 3)) := by decide

/-- The bounds checks are needed: without the `len ≥ 3` guard the read does go
    out of range (the `oob` outcome is reachable, the theorems are not vacuous). -/
example : rdN [0x99, 0x01] 1 2 = .oob := by decide
example : infoOf 0x80 [0x99, 0x01] = .val invalid := by decide
example : infoOf 0x80 [0x99, 0x01, 0x02] = .val (258, 3, false) := by decide
example : decode [0x9a, 0x7f, 0xff, 0xff, 0xff, 0x00] = none := by decide

end GV.Props.C02
