import GV.Model.TxSub
import GV.Gen.TxSubLimits
/-!
C24 — Tx-submission keeps its acknowledgement window consistent.

* the inbound side (Server) never acknowledges more ids than it has received and
  not yet acknowledged; its request/ack counts on the wire are within 0..65535
  and are exactly the integers the caller/bookkeeping hold (no uint16 wrap);
* the outbound side (Client) rejects requests whose counts exceed the limits,
  and says Done only in answer to a blocking request.

All statements quantify over arbitrary histories (`List SAct` / `List CAct`),
arbitrary Go `int` request counts and arbitrary reply sizes.
-/
namespace GV.Props.C24
open GV.Model.TxSub

/-- the regenerated constants are the ones the model uses -/
theorem limits_regenerated :
    GV.Gen.TxSubLimits.maxRequestCount = maxRequestCount ∧
    GV.Gen.TxSubLimits.maxAckCount = maxAckCount ∧ maxAckCount = 65535 := by decide

/-- bookkeeping invariant: what will be acknowledged next has been received and
    is still unacknowledged -/
def Inv (s : Srv) : Prop := 0 ≤ s.ackCount ∧ s.ackCount ≤ s.outstanding

theorem inv_init : Inv Srv.init := by simp [Inv, Srv.init]

theorem toU16_id {x : Int} (h0 : 0 ≤ x) (h1 : x ≤ 65535) : (toU16 x : Int) = x := by
  unfold toU16
  have : x % 65536 = x := Int.emod_eq_of_lt h0 (by omega)
  rw [this]; exact Int.toNat_of_nonneg h0

theorem admits_bounds {s : Srv} {req : Int} (h : srvAdmits s req = true) :
    0 ≤ req ∧ req ≤ 65535 ∧ 0 ≤ s.ackCount ∧ s.ackCount ≤ 65535 := by
  unfold srvAdmits maxRequestCount maxAckCount at h
  simp only [Bool.and_eq_true, Bool.not_eq_true', decide_eq_false_iff_not] at h
  omega

theorem admitted_counts {s : Srv} {r : Int} (h : Inv s) (ha : srvAdmits s r = true) :
    (toU16 s.ackCount : Int) = s.ackCount ∧ (toU16 r : Int) = r ∧
    toU16 s.ackCount ≤ 65535 ∧ toU16 r ≤ 65535 ∧ (toU16 s.ackCount : Int) ≤ s.outstanding := by
  obtain ⟨r0, r1, h0, h1⟩ := admits_bounds ha
  have e1 := toU16_id h0 h1
  have e2 := toU16_id r0 r1
  unfold Inv at h
  refine ⟨e1, e2, ?_, ?_, ?_⟩ <;> omega

theorem inv_step (s : Srv) (a : SAct) (h : Inv s) : Inv (srvStep s a).1 := by
  cases a with
  | reqTxs k => exact h
  | reqIds b req n =>
    unfold srvStep
    by_cases ha : srvAdmits s req = true
    · simp only [ha, ↓reduceIte]
      have := admitted_counts h ha
      unfold Inv at *; simp only; omega
    · simpa [ha] using h
  | reqIdsDone req =>
    unfold srvStep
    by_cases ha : srvAdmits s req = true
    · simp [ha, Inv]
    · simpa [ha] using h

/-- Every request the server puts on the wire carries exactly its `ackCount` and
    the caller's `reqCount` (the `uint16(..)` conversions never wrap), both in
    0..65535, and the ack never exceeds the outstanding ids. -/
theorem wire_exact (s : Srv) (a : SAct) (h : Inv s) {ack req : Nat} {b : Bool} {res : Option Nat}
    (hw : (srvStep s a).2 = .wire ack req b res) :
    (ack : Int) = s.ackCount ∧ ack ≤ 65535 ∧ req ≤ 65535 ∧ (ack : Int) ≤ s.outstanding ∧
    (match a with
     | .reqIds _ r _ => (req : Int) = r
     | .reqIdsDone r => (req : Int) = r
     | .reqTxs _ => False) := by
  cases a with
  | reqTxs k => cases hw
  | reqIds _ r _ | reqIdsDone r =>
    unfold srvStep at hw
    by_cases ha : srvAdmits s r = true
    · simp only [ha, ↓reduceIte, SOut.wire.injEq] at hw
      obtain ⟨rfl, rfl, _, _⟩ := hw
      obtain ⟨e1, e2, l1, l2, l3⟩ := admitted_counts h ha
      exact ⟨e1, l1, l2, l3, e2⟩
    · simp [ha] at hw

theorem run_ok (acts : List SAct) : ∀ s : Srv, Inv s → srvOk s.outstanding (srvRun s acts) = true := by
  induction acts with
  | nil => intro s _; rfl
  | cons a t ih =>
    intro s h
    have hn := inv_step s a h
    have ih' := ih _ hn
    unfold srvRun
    cases a with
    | reqTxs k => simpa [srvStep, srvOk] using ih'
    | reqIds _ r _ | reqIdsDone r =>
      by_cases ha : srvAdmits s r = true
      · obtain ⟨_, _, l1, l2, l3⟩ := admitted_counts h ha
        simp only [srvStep, ha, ↓reduceIte, srvOk, Bool.and_eq_true, decide_eq_true_eq] at ih' ⊢
        exact ⟨⟨⟨l1, l2⟩, l3⟩, ih'⟩
      · simp only [srvStep, ha, Bool.false_eq_true, ↓reduceIte, srvOk] at ih' ⊢
        exact ih'

/-- The inbound half of the property, for every history from the initial state. -/
theorem ack_window_consistent (acts : List SAct) : srvOk 0 (srvRun Srv.init acts) = true :=
  run_ok acts Srv.init inv_init

/-- every reaction of the model meets the per-call demand: the wire carries the caller's own
    count (never a truncation of it), the caller's blocking flag, or the call is refused -/
theorem step_meets_srvDemand (s : Srv) (a : SAct) (h : Inv s) : srvDemand a (srvStep s a).2 = true := by
  cases a with
  | reqTxs k => simp [srvStep, srvDemand]
  | reqIds _ r _ | reqIdsDone r =>
    by_cases ha : srvAdmits s r = true
    · simpa [srvStep, ha, srvDemand] using (admitted_counts h ha).2.1
    · simp [srvStep, ha, srvDemand]

theorem run_meets_demands (acts : List SAct) : ∀ s : Srv, Inv s → srvDemands acts (srvRun s acts) = true := by
  induction acts with
  | nil => intro s _; rfl
  | cons a t ih =>
    intro s h
    unfold srvRun
    simp only [srvDemands, Bool.and_eq_true]
    exact ⟨step_meets_srvDemand s a h, ih _ (inv_step s a h)⟩

/-- Counts outside 0..65535 are refused, not wrapped: together with `ack_window_consistent`
    (wire counts ≤ 65535) no accepted trace contains a request for a count the caller did not give. -/
theorem counts_never_truncated (acts : List SAct) : srvDemands acts (srvRun Srv.init acts) = true :=
  run_meets_demands acts Srv.init inv_init

/-- the demand is not vacuous: 65541 going out as 5 is rejected, a refusal is accepted -/
example : srvDemands [.reqIds false 65541 0] [.wire 0 5 false (some 0)] = false := by decide
example : srvDemands [.reqIds false 65541 0] [.refused] = true := by decide

/-- the monitor is not vacuous: it rejects a trace that acknowledges an id never received -/
example : srvOk 0 [.wire 0 3 true (some 2), .wire 3 1 false (some 0)] = false := by decide
/-- … and one whose count left the 16-bit range -/
example : srvOk 0 [.wire 0 65536 true (some 0)] = false := by decide
/-- a run that really puts requests on the wire, restarts and refuses -/
example : srvRun Srv.init [.reqIds true 3 2, .reqIds false 70000 1, .reqIdsDone 1, .reqIds false 4 3] =
    [.wire 0 3 true (some 2), .refused, .wire 2 1 true none, .wire 0 4 false (some 3)] := by decide

/-- A peer that replies more than 65535 ids silences the server for good (it
    refuses instead of wrapping the count). -/
theorem oversized_reply_refuses (s : Srv) (req : Int) (b : Bool) (n : Nat) (h : s.ackCount > 65535) :
    srvStep s (.reqIds b req n) = (s, .refused) := by
  have ha : ¬ srvAdmits s req = true := fun ha => by have := admits_bounds ha; omega
  simp [srvStep, ha]

/-! ### Outbound side -/

/-- A request whose ack or req count is outside 0..65535 is rejected, and the
    mempool callback is not consulted. -/
theorem client_rejects_excess (b : Bool) (ack req : WInt) (ans : CbAns)
    (h : ack.exceeds = true ∨ req.exceeds = true) : cliStep (.reqIds b ack req ans) = .err := by
  have hd : ∀ w : WInt, w.exceeds = true → decodeU16 w = none := by
    intro w hw; cases w with
    | nat n => simp only [WInt.exceeds, decide_eq_true_eq] at hw; simp [decodeU16]; omega
    | neg n => rfl
  unfold cliStep
  rcases h with h | h
  · simp [hd _ h]
  · cases hack : decodeU16 ack <;> simp [hd _ h]

/-- in-range requests reach the callback with exactly the wire counts -/
theorem client_passes_in_range (b : Bool) (a r k : Nat) (ha : a ≤ 65535) (hr : r ≤ 65535) :
    cliStep (.reqIds b (.nat a) (.nat r) (.ids k)) = .reply a r k := by
  have h1 : ¬ a > 65535 := by omega
  have h2 : ¬ r > 65535 := by omega
  simp [cliStep, decodeU16, maxAckCount, maxRequestCount, ha, hr, h1, h2]

/-- The client says Done only in answer to a *blocking* id request whose callback
    asked to stop. -/
theorem done_only_after_blocking (a : CAct) (x y : Nat) (h : cliStep a = .done x y) :
    ∃ ack req, a = .reqIds true ack req .stop := by
  revert h
  fun_cases cliStep a <;> intro h <;> cases h
  exact ⟨_, _, rfl⟩

/-- every reaction of the model meets the per-step demand the driver monitors on the implementation -/
theorem step_meets_demand (a : CAct) : cliDemand a (cliStep a) = true := by
  cases a with
  | reqTxs k => simp [cliDemand, cliStep]
  | reqIds b ack req ans =>
    unfold cliDemand
    simp only [Bool.and_eq_true]
    constructor
    · by_cases he : (ack.exceeds || req.exceeds) = true
      · have := client_rejects_excess b ack req ans (by simpa [Bool.or_eq_true] using he)
        simp [he, this]
      · simp [he]
    · cases hs : cliStep (.reqIds b ack req ans) with
      | done x y =>
        obtain ⟨a', r', e⟩ := done_only_after_blocking _ x y hs
        simp only [CAct.reqIds.injEq] at e
        simp [e.1]
      | _ => simp

/-- Over any history: the whole client trace is accepted by the monitor (over-limit
    requests rejected, Done only on blocking, nothing after a terminal reaction). -/
theorem client_run_ok (acts : List CAct) : cliOk acts (cliRun acts) = true := by
  induction acts with
  | nil => rfl
  | cons a t ih =>
    unfold cliRun
    by_cases ht : (cliStep a).terminal = true
    · simp [ht, cliOk, step_meets_demand]
    · simp only [ht, Bool.false_eq_true, ↓reduceIte, cliOk, step_meets_demand, Bool.true_and]
      exact ih

/-- non-vacuity: the client monitor rejects a Done sent to a non-blocking request
    and an accepted over-limit request -/
example : cliOk [.reqIds false (.nat 0) (.nat 1) .stop] [.done 0 1] = false := by decide
example : cliOk [.reqIds true (.nat 65536) (.nat 1) (.ids 1)] [.reply 0 1 1] = false := by decide
example : cliRun [.reqIds true (.nat 0) (.nat 3) (.ids 2), .reqIds true (.nat 2) (.nat 1) .stop, .reqTxs 1] =
    [.reply 0 3 2, .done 2 1] := by decide

end GV.Props.C24
