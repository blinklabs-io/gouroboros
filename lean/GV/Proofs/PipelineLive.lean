import GV.Proofs.Pipeline
/-
  Termination measure and progress of the pipeline step system.
-/
namespace GV.Proofs.Pipeline
open GV.Model.Pipeline

/-- steps taken by the pipeline's own goroutines (workers, apply runner) -/
def internal : Ev → Bool
  | .enter | .giveup | .acq _ | .sub _ | .fail | .start | .cancel | .close | .pc _ | .pcq _ | .pa _ | .pb _ => false
  | _ => true

/- The weights of `measure` fall along the way of a block: `subCh` 12, `decW` 11, `midCh` 10,
   `valW` 9, `inCh` 8, the runner's `hand` 7, then `pending` 6 (buffered) or `deq` 5 (dequeued),
   `inApply` 4, and `drain (out ++ [x])` = 3 + 2·|out|.  A block of `out` still to be forwarded
   counts 2, and `drain` one more than `fwd` with the same `out`, so that taking a block from
   `pending` (`drain out` + 6 → `deq _ out`) and forwarding one (`drain (z :: out)` → `fwd out`)
   both go down. -/
def runnerMeasure : Runner → Nat
  | .fwd out => 2 * out.length
  | .hand _ => 7
  | .deq _ out => 5 + 2 * out.length
  | .inApply _ out => 4 + 2 * out.length
  | .drain out => 2 * out.length + 1

/-- every step of a pipeline goroutine moves a block one place further (or drops it) -/
def measure (s : St) : Nat :=
  12 * s.subCh.length + 11 * s.decW.length + 10 * s.midCh.length + 9 * s.valW.length +
    8 * s.inCh.length + 6 * s.pending.length + runnerMeasure s.runner

theorem len_erase {x : Item} {l : List Item} (h : x ∈ l) : l.length = (l.erase x).length + 1 :=
  (List.perm_cons_erase h).length_eq

theorem internal_step_decreases {c : Cfg} {s s' : St} {e : Ev}
    (hi : internal e = true) (hs : Step c s e s') : measure s' < measure s := by
  cases hs with
  | dt hx | dpMid hx | dpIn hx | dd hx | vt _ hx | vp hx | vd hx | at_ hx | aqDrain hx =>
    simp only [measure, runnerMeasure, List.length_cons, List.length_nil, len_erase hx]
    simp +arith only
  | ax | ab | aqHand | ap | adSkip | adDone | rsDrain | rsFwd | rdDrain | rdFwd =>
    simp +arith only [measure, runnerMeasure, List.length_cons, List.length_nil, List.length_append]
  | _ => cases hi

theorem closed_step {c : Cfg} {s s' : St} {e : Ev} (hcl : s.closed = true) (hs : Step c s e s') :
    s'.closed = true ∧ (internal e = false → measure s' ≤ measure s) := by
  cases hs with
  | acq _ h | sub _ h => cases h.symm.trans hcl
  | close => exact ⟨rfl, fun _ => Nat.le_refl _⟩
  | enter | giveup | fail | failLegacy | start | cancel | pc | pcq | pa | pb => exact ⟨hcl, fun _ => Nat.le_refl _⟩
  | _ => exact ⟨hcl, nofun⟩

theorem run_bounded {c : Cfg} (es : List Ev) {s s' : St}
    (h : s.closed = true ∨ ∀ e ∈ es, internal e = true)
    (hr : run c s es = some s') : (es.filter internal).length + measure s' ≤ measure s := by
  induction es generalizing s with
  | nil => cases hr; exact Nat.le_of_eq (Nat.zero_add _)
  | cons e es ih =>
    simp only [run] at hr
    cases hs : step c s e with
    | none => simp [hs] at hr
    | some s1 =>
      rw [hs] at hr
      have := ih (h.imp (fun hcl => (closed_step hcl (.of_step hs)).1)
        fun hall e he => hall e (List.mem_cons_of_mem _ he)) hr
      cases hi : internal e
      · -- an event from outside: `h` leaves only the closed pipeline
        have hcl := h.resolve_right fun hall => Bool.false_ne_true (hi.symm.trans (hall e List.mem_cons_self))
        have := (closed_step hcl (.of_step hs)).2 hi
        simp only [List.filter_cons, hi, Bool.false_eq_true, if_false]; omega
      · have := internal_step_decreases hi (.of_step hs)
        simp only [List.filter_cons, hi, if_true, List.length_cons]; omega

theorem internal_step_keeps {c : Cfg} {s s' : St} {e : Ev}
    (hi : internal e = true) (hs : Step c s e s') :
    s'.subs = s.subs ∧ s'.cancelled = s.cancelled ∧ s'.counter = s.counter := by
  cases hs with
  | enter | giveup | acq | sub | fail | failLegacy | start | cancel | close | pc | pcq | pa | pb => cases hi
  | _ => exact ⟨rfl, rfl, rfl⟩

/-- what `progress` needs of a reachable state: without a validate stage its places are empty, and
    the runner is in `drain out` only with the block it has just finished in `out` -/
structure WF (c : Cfg) (s : St) : Prop where
  no_validate : c.validate = false → s.midCh = [] ∧ s.valW = []
  drain_ne : ∀ out, s.runner = .drain out → out ≠ []

theorem wf_init (c : Cfg) : WF c init := by
  constructor <;> simp [init]

theorem wf_step {c : Cfg} {s s' : St} {e : Ev} (h : WF c s) (hs : Step c s e s') : WF c s' := by
  obtain ⟨h1, h2⟩ := h
  cases hs with
  | dpMid _ hv | vt hv => exact ⟨fun h => by simp [hv] at h, h2⟩
  | vp hx | vd hx => exact ⟨fun h => by have := (h1 h).2 ▸ hx; simp at this, h2⟩
  | adSkip | adDone => exact ⟨h1, fun out h => by cases h; simp⟩
  | aqDrain | ap | aqHand | at_ | ax | ab | rsDrain | rsFwd | rdDrain | rdFwd => exact ⟨h1, nofun⟩
  | _ => exact ⟨h1, h2⟩

theorem wf_reachable (c : Cfg) (s : St) (h : Reachable c s) : WF c s :=
  reachable_induction (wf_init c) wf_step s h

theorem progress (c : Cfg) (s : St) (hw : WF c s) (hq : ¬ Quiescent s) :
    ∃ e, internal e = true ∧ (step c s e).isSome = true := by
  cases h1 : s.subCh with
  | cons x xs => exact ⟨.dt x, rfl, by simp [step, h1]⟩
  | nil =>
  cases h2 : s.decW with
  | cons x xs =>
    refine ⟨.dp x, rfl, ?_⟩
    cases hv : c.validate <;> simp [step, h2, hv]
  | nil =>
  cases h3 : s.midCh with
  | cons x xs =>
    cases hv : c.validate with
    | true => exact ⟨.vt x, rfl, by simp [step, h3, hv]⟩
    | false => have := (hw.no_validate hv).1; simp [h3] at this
  | nil =>
  cases h4 : s.valW with
  | cons x xs => exact ⟨.vp x, rfl, by simp [step, h4]⟩
  | nil =>
  cases h6 : s.runner with
  | hand x =>
    by_cases hx : x.seq = s.nextSeq
    · exact ⟨.aq x, rfl, by simp [step, h6, hx]⟩
    · exact ⟨.ab x, rfl, by simp [step, h6, hx]⟩
  | deq x out =>
    cases hok : x.ok c with
    | true => exact ⟨.ap x, rfl, by simp [step, h6, hok]⟩
    | false => exact ⟨.ad x, rfl, by simp [step, h6, hok]⟩
  | inApply x out => exact ⟨.ad x, rfl, by simp [step, h6]⟩
  | drain out =>
    cases out with
    | nil => exact absurd rfl (hw.drain_ne [] h6)
    | cons z rest =>
      by_cases hp : ∃ p ∈ s.pending, p.seq = s.nextSeq
      · obtain ⟨p, hp1, hp2⟩ := hp
        exact ⟨.aq p, rfl, by simp [step, h6, hp1, hp2]⟩
      · have hg : s.cancelled = true ∨ ∀ p ∈ s.pending, p.seq ≠ s.nextSeq :=
          .inr fun p hp1 hp2 => hp ⟨p, hp1, hp2⟩
        exact ⟨.rs z, rfl, by simp [step, fwdStep, h6, hg]⟩
  | fwd out =>
    cases out with
    | cons z rest => exact ⟨.rs z, rfl, by simp [step, fwdStep, h6]⟩
    | nil =>
      cases h5 : s.inCh with
      | cons x xs => exact ⟨.at_ x, rfl, by simp [step, h6, h5]⟩
      | nil => exact absurd ⟨h1, h2, h3, h4, h5, h6⟩ hq

end GV.Proofs.Pipeline
