import GV.Model.LeiosVotes
import GV.Gen.StateMaps
/-!
  C16, leios-votes: general counter bisimulation (all request counts, traces of every length)
  between the hand model of the implementation's side-effecting match functions and the
  specification, and the tie of the hand model to the running code (generated table for the
  probed counts + boundary probes of the real engine).
-/
namespace GV.Props.C16LeiosVotes
open GV.LeiosVotes
open GV.SM (Machine Sym)

/-- the implementation state a specification state stands for (Idle and Done hold no tokens);
    its graph is the bisimulation -/
def conc : Spec → St
  | .idle => ⟨1, 0⟩
  | .busy t => ⟨2, t⟩
  | .done => ⟨3, 0⟩

theorem step_conc (q : Spec) (a : Msg) : step 1000 (conc q) a = (specStep q a).map conc := by
  cases q with
  | idle =>
    cases a with
    | requestNext c =>
      simp only [conc, step, if_true, specStep]
      -- the implementation tests `c = 0 ∨ c > 1000` to refuse, the specification `hc` to accept
      by_cases hc : 1 ≤ c ∧ c ≤ 1000
      · rw [if_neg (by omega), if_pos hc]
        rfl
      · rw [if_pos (by omega), if_neg hc]
        rfl
    | vote => rfl
    | done => rfl
  | busy t =>
    cases a with
    | requestNext c => rfl
    | vote =>
      -- the implementation tests `t > 1`, then `t = 1`; the specification `t = 1`, then `t > 1`
      obtain _ | _ | t := t
      · rfl -- 0: both refuse
      · rfl -- 1: to idle
      · simp [conc, step, specStep] -- t + 2: stays busy with t + 1
    | done => rfl
  | done => cases a <;> rfl

theorem run_conc (q : Spec) (tr : List Msg) : run 1000 (conc q) tr = (specRun q tr).map conc := by
  fun_induction specRun q tr <;> simp [run, step_conc, *]

theorem run_eq_foldlM (mx : Nat) (s : St) (tr : List Msg) : run mx s tr = tr.foldlM (step mx) s := by
  fun_induction run mx s tr <;> simp [*]

theorem run_append (mx : Nat) (s : St) (xs ys : List Msg) :
    run mx s (xs ++ ys) = (run mx s xs).bind (run mx · ys) := by
  simp only [run_eq_foldlM, List.foldlM_append]; rfl

/-- **General counter bisimulation**: for EVERY message sequence — any request counts, any number
    of votes — the implementation model accepts it iff the specification does. -/
theorem language_eq (tr : List Msg) :
    (run 1000 LeiosVotes.init tr).isSome = (specRun .idle tr).isSome :=
  (congrArg Option.isSome (run_conc .idle tr)).trans Option.isSome_map

theorem votes_lt (mx n k : Nat) (hk : k < n) :
    run mx ⟨2, n⟩ (List.replicate k .vote) = some ⟨2, n - k⟩ := by
  induction k generalizing n with
  | zero => rfl
  | succ k ih =>
    simp only [List.replicate_succ, run, step, if_true, if_pos (show n > 1 by omega)]
    rw [ih (n - 1) (by omega), Nat.sub_sub, Nat.add_comm]

theorem votes_all (mx n : Nat) (hn : 1 ≤ n) :
    run mx ⟨2, n⟩ (List.replicate n .vote) = some ⟨1, 0⟩ ∧
    run mx ⟨2, n⟩ (List.replicate (n + 1) .vote) = none := by
  obtain ⟨k, rfl⟩ : ∃ k, n = k + 1 := ⟨n - 1, by omega⟩
  -- the first `k` votes leave one outstanding; the last one or two are evaluated
  have h := votes_lt mx (k + 1) k (by omega)
  simp [List.replicate_succ', run_append, h, run, step]

/-- a request for n votes is not completed by fewer (n ≥ 1): after k < n votes the protocol is
    still busy with n - k outstanding (`votes_all`: the n-th completes it, one more is refused) -/
theorem exactly_n_votes (n k : Nat) (hn : 1 ≤ n) (hk : k < n) :
    run 1000 ⟨2, n⟩ (List.replicate k .vote) = some ⟨2, n - k⟩ := by
  have _ := hn  -- implied by `hk`
  exact votes_lt 1000 n k hk

/-! ### tie of the hand model to the running code -/

/-- the generated table (engine's own nextState on real messages, counts 0,1,2,3,1001, every
    reachable (state, tokens)) agrees with the hand model on every probed (state, symbol) -/
def tableAgrees (g : Machine) : Bool :=
  g.states.all (fun s => g.alphabet.all (fun a =>
    match ofSym a with
    | some msg => g.step s.id a == (step 1000 (decode s.id) msg).map encode
    | none => false))

theorem gen_table_matches_model :
    tableAgrees GV.Gen.StateMaps.leiosvotes_client = true ∧
    tableAgrees GV.Gen.StateMaps.leiosvotes_server = true := by decide

/-- boundary probes of the real engine: accepted request counts are exactly 1..1000 -/
theorem gen_count_bounds_match_model :
    (∀ p ∈ GV.Gen.StateMaps.leiosvotesCountProbes_client,
        p.2 = (step 1000 LeiosVotes.init (.requestNext p.1)).map encode) ∧
    (∀ p ∈ GV.Gen.StateMaps.leiosvotesCountProbes_server,
        p.2 = (step 1000 LeiosVotes.init (.requestNext p.1)).map encode) := by decide

/-- the real engine after RequestNext 1000 and k votes (k = 1, 2, 999, 1000, 1001) is where the
    model says -/
def votesAgree (probes : List (Nat × Option Nat)) : Bool :=
  probes.all (fun p =>
    p.2 == (run 1000 ⟨2, 1000⟩ (List.replicate p.1 .vote)).map encode)

theorem gen_votes_after_1000_match_model :
    votesAgree GV.Gen.StateMaps.leiosvotesVotesAfter1000_client = true ∧
    votesAgree GV.Gen.StateMaps.leiosvotesVotesAfter1000_server = true := by
  have h (k : Nat) (hk : k < 1000) := votes_lt 1000 1000 k hk
  have ⟨h1, h2⟩ := votes_all 1000 1000 (by decide)
  -- the five probed runs (1, 2, 999, 1000, 1001 votes) are rewritten to their results first, so
  -- that `decide` compares those and does not run up to a thousand votes each
  simp only [votesAgree, GV.Gen.StateMaps.leiosvotesVotesAfter1000_client,
    GV.Gen.StateMaps.leiosvotesVotesAfter1000_server, List.all_cons, List.all_nil,
    h 1 (by decide), h 2 (by decide), h 999 (by decide), h1,
    (h2 : run 1000 ⟨2, 1000⟩ (List.replicate 1001 .vote) = none)]
  decide

/-! non-vacuity -/
example : (run 1000 LeiosVotes.init [.requestNext 2, .vote, .vote, .done]).isSome = true := by decide
example : (run 1000 LeiosVotes.init [.requestNext 2, .vote, .done]).isSome = false := by decide
example : (run 1000 LeiosVotes.init [.requestNext 1001]).isSome = false := by decide

end GV.Props.C16LeiosVotes
