import GV.Model.RecvEngine
import GV.Proofs.StepSystem
/-
  For C13's per-state limit theorem.  `EInv`: the messages queued and not yet handled are a path
  of the machine along which the peer held agency (`PathOk`), and their sizes fit the limit of the
  current state.  Every step keeps it provided a limit is only tightened where agency changes
  hands (`LimitDropsOnHandover`): behind a message that hands agency over nothing can be queued.
-/
namespace GV.Proofs.RecvEngine
open GV.Model.RecvEngine

def PathOk {α : Type} (E : Eng α) (us : Nat) : Nat → List (α × Nat) → Prop
  | _, [] => True
  | c, (a, _) :: t => E.agency c ≠ us ∧ E.agency c ≠ 0 ∧ ∃ d, E.next c a = some d ∧ PathOk E us d t

def LimitDropsOnHandover {α : Type} (E : Eng α) : Prop :=
  ∀ s a d, E.next s a = some d → tightens (E.limit s) (E.limit d) = true → E.agency d ≠ E.agency s

def AgencyRange {α : Type} (E : Eng α) : Prop := ∀ s, E.agency s ≤ 2

def EInv {α : Type} (E : Eng α) (us : Nat) (s : ES α) : Prop :=
  PathOk E us s.cur s.path ∧ (s.busy = true → s.q ≠ []) ∧
  (E.limit s.cur > 0 → sumSizes s.path ≤ E.limit s.cur)

theorem sumSizes_append {α : Type} (a b : List (α × Nat)) :
    sumSizes (a ++ b) = sumSizes a + sumSizes b := by
  simp [sumSizes, List.sum_append]

theorem sumSizes_tail_le {α : Type} (l : List (α × Nat)) : sumSizes l.tail ≤ sumSizes l := by
  cases l with
  | nil => simp [sumSizes]
  | cons x t => simp [sumSizes]

theorem pathOk_snoc {α : Type} (E : Eng α) (us : Nat) (path : List (α × Nat))
    (c v : Nat) (a : α) (sz : Nat) (hp : PathOk E us c path) (hv : vstate E c path = some v)
    (h1 : E.agency v ≠ us) (h2 : E.agency v ≠ 0) (h3 : (E.next v a).isSome = true) :
    PathOk E us c (path ++ [(a, sz)]) := by
  fun_induction vstate E c path with
  | case1 c =>                  -- empty path: `v = c`
    cases hv
    obtain ⟨d, hd⟩ := Option.isSome_iff_exists.mp h3
    exact ⟨h1, h2, d, hd, trivial⟩
  | case2 c b bs t d hd ih =>   -- the first message steps to `d`
    obtain ⟨p1, p2, d', hd', hp'⟩ := hp
    cases hd.symm.trans hd'
    exact ⟨p1, p2, d, hd, ih hp' hv⟩
  | case3 => cases hv           -- the first message has no step: `vstate = none`

theorem peer_agency {α : Type} {E : Eng α} {us c : Nat} (hus : us = 1 ∨ us = 2) (hA : AgencyRange E)
    (h1 : E.agency c ≠ us) (h2 : E.agency c ≠ 0) : E.agency c = 3 - us := by
  have := hA c
  rcases hus with rfl | rfl <;> omega

theorem not_tightens {ls ld : Nat} (h : tightens ls ld = false) (hd : 0 < ld) : 0 < ls ∧ ls ≤ ld := by
  simp only [tightens, Bool.and_eq_false_iff, decide_eq_false_iff_not, Bool.or_eq_false_iff,
    beq_eq_false_iff_ne] at h
  omega

theorem einv_init {α : Type} (E : Eng α) (us c : Nat) : EInv E us ⟨c, [], false⟩ := by
  refine ⟨?_, ?_, ?_⟩
  · simp [ES.path, PathOk]
  · intro h; simp at h
  · intro _; simp [ES.path, sumSizes]

theorem path_enq {α : Type} (s : ES α) (x : α × Nat) (hb : s.busy = true → s.q ≠ []) :
    ES.path { s with q := s.q ++ [x] } = s.path ++ [x] := by
  unfold ES.path
  cases hbz : s.busy with
  | false => rfl
  | true => simp [List.tail_append_of_ne_nil (hb hbz)]

theorem sumSizes_path_le {α : Type} (s : ES α) : sumSizes s.path ≤ s.pending := by
  unfold ES.path ES.pending
  cases s.busy <;> simp [sumSizes_tail_le]

theorem einv_step {α : Type} (E : Eng α) (us : Nat) (hus : us = 1 ∨ us = 2)
    (hH : LimitDropsOnHandover E) (hA : AgencyRange E)
    (s s' : ES α) (act : EAct α) (hi : EInv E us s) (hs : estep E us s act = some s') :
    EInv E us s' := by
  obtain ⟨hp, hb, hB⟩ := hi
  revert hs
  fun_cases estep E us s act <;> intro hs <;> cases hs
  case case1 a size v hv hc =>
    -- the peer sends: the path grows by a step taken under the peer's agency
    obtain ⟨c1, c2, c3, c4⟩ := hc
    refine ⟨?_, fun _ => by simp, fun hl => ?_⟩
    · rw [path_enq s _ hb]; exact pathOk_snoc E us s.path s.cur v a size hp hv c1 c2 c3
    · rw [path_enq s _ hb, sumSizes_append]
      simp only [fits, Bool.or_eq_true, beq_iff_eq, Bool.and_eq_true, decide_eq_true_eq] at c4
      have := sumSizes_path_le s
      have hl' : E.limit s.cur > 0 := hl
      simp only [sumSizes, List.map_cons, List.map_nil, List.sum_cons, List.sum_nil] at *
      omega
  case case6 hbz a sz t hq d hn =>
    -- the handler starts: the state moves along the first step of the path
    have hpath0 : s.path = (a, sz) :: t := by simp [ES.path, hbz, hq]
    rw [hpath0] at hp hB
    simp only [PathOk, hn, Option.some.injEq, exists_eq_left'] at hp
    obtain ⟨p1, p2, hp'⟩ := hp
    refine ⟨by simpa [ES.path, hq] using hp', fun _ => by simp [hq], fun hl => ?_⟩
    simp only [ES.path, hq, List.tail_cons, ↓reduceIte]
    cases ht : tightens (E.limit s.cur) (E.limit d) with
    | true =>
      -- agency handed over: nothing can be queued behind this message
      have hag := hH s.cur a d hn ht
      cases t with
      | nil => simp [sumSizes]
      | cons y t' =>
        -- both states would be the peer's: no handover
        obtain ⟨b, bs⟩ := y
        simp only [PathOk] at hp'
        exact absurd ((peer_agency hus hA p1 p2).trans (peer_agency hus hA hp'.1 hp'.2.1).symm).symm hag
    | false =>
      have ⟨hpos, hle⟩ := not_tightens ht hl
      have hb0 := hB hpos
      simp only [sumSizes, List.map_cons, List.sum_cons] at hb0 ⊢
      omega
  case case8 hbz =>
    -- the handler returns: the path is already the tail of the queue
    have hpath0 : s.path = s.q.tail := by simp [ES.path, hbz]
    rw [hpath0] at hp hB
    exact ⟨by simpa [ES.path] using hp, fun h => by simp at h, fun hl => by simpa [ES.path] using hB hl⟩
  case case10 a hag d hn =>
    -- we have agency, so the peer has nothing queued
    have hempty : ES.path { s with cur := d } = [] := by
      show s.path = []
      cases hpth : s.path with
      | nil => rfl
      | cons x t =>
        rw [hpth] at hp
        exact absurd hag hp.1
    exact ⟨by rw [hempty]; trivial, hb, fun _ => by rw [hempty]; simp [sumSizes]⟩

theorem erun_eq_foldlM {α : Type} (E : Eng α) (us : Nat) (s : ES α) (acts : List (EAct α)) :
    erun E us s acts = acts.foldlM (estep E us) s := by
  fun_induction erun E us s acts <;> simp [*]

theorem einv_run {α : Type} (E : Eng α) (us : Nat) (hus : us = 1 ∨ us = 2)
    (hH : LimitDropsOnHandover E) (hA : AgencyRange E) (acts : List (EAct α))
    (s s' : ES α) (hi : EInv E us s) (hr : erun E us s acts = some s') : EInv E us s' :=
  StepSystem.foldlM_invariant acts (fun s a s' _ hi hs => einv_step E us hus hH hA s s' a hi hs) hi
    (erun_eq_foldlM E us s acts ▸ hr)

end GV.Proofs.RecvEngine
