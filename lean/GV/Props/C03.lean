import GV.Model.CborId
import GV.Proofs.CborId
import GV.Gen.SumTypes
/-!
C03 — Tagged-sum decoding follows the tag, whatever the length encoding.

A CBOR list whose first element selects a variant is decoded as the variant
named by that element, for every admissible header form of the list
(one-byte, 1/2/4/8-byte argument, indefinite) and every width of the tag.

`decodeIdFromList` (GV.Model.CborId) mirrors `cbor.DecodeIdFromList` byte for
byte *after* the `fix:` commit; `decodeIdFromListOld` is the function as found.
-/
namespace GV.Props.C03
open GV.CborT GV.Model.CborId GV.Proofs.CborId

/-- Full statement: for EVERY header form `f` (definite with any argument width
    that can carry the length, or indefinite), every width `w` of the tag `k`
    and every (valid, not over-deep) tail `xs` whose items the generic decoder
    admits (`elemsOk`: built-in tags 0..3 carry the content type fxamacker
    insists on), whatever bytes follow, the id the library extracts is `k`. -/
def C03_full (idOf : Bytes → Option Nat) : Prop :=
  ∀ (f : Form) (w : W) (k : Nat) (xs : List Cbor) (rest : Bytes),
    (mkArr f (.int false w k :: xs)).valid = true →
    depth (mkArr f (.int false w k :: xs)) ≤ maxNested → k ≤ maxInt →
    elemsOk xs = true →
    idOf (enc (mkArr f (.int false w k :: xs)) ++ rest) = some k

/-- The repaired `DecodeIdFromList` satisfies the full statement. The argument `true` is the
    oracle's answer "`Decode(b, &Value)` succeeds" (GV.Model.CborId): the statement is about
    such inputs only; with `false` the model answers `none` off the byte-1 shortcut. -/
theorem decodeId_follows_tag : C03_full (decodeIdFromList true) :=
  fun f w k xs rest hv hd hk he => decodeId_enc f w k xs rest hv hd hk he

/-- …and it coincides with the fast-path-free reading of the tree
    (`tagOfTree`, which is what the `spec` column of the driver evaluates). -/
theorem decodeId_eq_tagOfTree (f : Form) (w : W) (k : Nat) (xs : List Cbor) (rest : Bytes)
    (hv : (mkArr f (.int false w k :: xs)).valid = true)
    (hd : depth (mkArr f (.int false w k :: xs)) ≤ maxNested) (hk : k ≤ maxInt)
    (he : elemsOk xs = true) :
    decodeIdFromList true (enc (mkArr f (.int false w k :: xs)) ++ rest)
      = tagOfTree (enc (mkArr f (.int false w k :: xs)) ++ rest) := by
  rw [decodeId_enc f w k xs rest hv hd hk he, tagOfTree_enc f w k xs rest hv]

/-- The list length is read correctly in every header form. -/
theorem listLength_follows_header (f : Form) (x : Cbor) (xs : List Cbor) (rest : Bytes)
    (hv : (mkArr f (x :: xs)).valid = true) (hd : depth (mkArr f (x :: xs)) ≤ maxNested)
    (he : elemsOk (x :: xs) = true) :
    listLength (enc (mkArr f (x :: xs)) ++ rest) = some (xs.length + 1) :=
  listLength_enc f x xs rest hv hd he

/-- Sum-type decoders (`variantOfInfo` = navigation to the tagged list +
    `DecodeIdFromList` + the type's switch; `variantOf` is this for the entry `findSum`
    finds under the type's name): wherever the tagged list sits in the
    decoder's input (`e.path`: top level for scripts, certificates, …; nested for
    the ledger failure reasons and the local-state-query leaves), the variant is
    the table entry of the list's first element, in every header form. -/
theorem variant_follows_tag (e : SumInfo) (T : Cbor) (f : Form) (w : W) (k : Nat) (xs : List Cbor)
    (rest : Bytes) (hT : T.valid = true)
    (hg : e.guards.all (guardOk T) = true)
    (hnav : nav T e.path = some (mkArr f (.int false w k :: xs)))
    (hv : (mkArr f (.int false w k :: xs)).valid = true)
    (hd : depth (mkArr f (.int false w k :: xs)) ≤ maxNested) (hk : k ≤ maxInt)
    (he : elemsOk xs = true) :
    variantOfInfo e true (enc T ++ rest) = some (e.variant k) := by
  obtain ⟨rest', h⟩ := subBytes_enc e T _ rest hT hg hnav
  simp only [variantOfInfo, h, decodeId_enc f w k xs rest' hv hd hk he]

/-- …and this is what the fast-path-free reading of the tree gives: the left side is the
    body of `variantSpec` (the `spec` column of the driver) for the table entry `e`. -/
theorem variant_eq_spec (T : Cbor) (f : Form) (w : W) (k : Nat) (xs : List Cbor)
    (rest : Bytes) (hT : T.valid = true) (e : SumInfo)
    (hg : e.guards.all (guardOk T) = true)
    (hnav : nav T e.path = some (mkArr f (.int false w k :: xs)))
    (hv : (mkArr f (.int false w k :: xs)).valid = true) :
    (match subBytes e (enc T ++ rest) with
     | some sb => (tagOfTree sb).map e.variant
     | none => none) = some (e.variant k) := by
  obtain ⟨rest', h⟩ := subBytes_enc e T _ rest hT hg hnav
  simp only [h, tagOfTree_enc f w k xs rest' hv, Option.map_some]

/-- `DecodeById` selects the destination registered for the first element. -/
theorem decodeById_follows_tag (known : Nat → Bool) (f : Form) (w : W) (k : Nat) (xs : List Cbor)
    (rest : Bytes) (hv : (mkArr f (.int false w k :: xs)).valid = true)
    (hd : depth (mkArr f (.int false w k :: xs)) ≤ maxNested) (hk : k ≤ maxInt) (hkn : known k = true)
    (he : elemsOk xs = true) :
    decodeById true known (enc (mkArr f (.int false w k :: xs)) ++ rest) = some k := by
  unfold decodeById
  rw [decodeId_enc f w k xs rest hv hd hk he,
      rawListLen_enc f _ rest hv hd (by simp [elemsOk, tagChainOk, he])]
  simp [hkn]

/-- The function as found violates the statement: `98 02 01 80` (`All []` with a
    two-byte list header) yields 2 = the length byte (`Any []`). -/
theorem old_witness :
    decodeIdFromListOld true [0x98, 0x02, 0x01, 0x80] = some 2 ∧
    tagOfTree [0x98, 0x02, 0x01, 0x80] = some 1 ∧
    decodeIdFromList true [0x98, 0x02, 0x01, 0x80] = some 1 := by
  decide

theorem old_not_full : ¬ C03_full (decodeIdFromListOld true) := by
  intro h
  have := h (.defn .w1) .w0 1 [.arr .w0 []] [] (by decide) (by decide) (by decide) (by decide)
  revert this
  decide

/-- In the regenerated table distinct tags select distinct variants (so "the
    variant named by the first element" determines the tag and vice versa). -/
theorem table_tags_distinct :
    ∀ e ∈ GV.Gen.SumTypes.table, (e.tags.map (·.1)).Nodup ∧ (e.tags.map (·.2)).Nodup := by
  decide +kernel

/-- Non-vacuity: hypotheses of the main theorem on a non-trivial value —
    pool-retirement-like list `[4, h'0102', 300]`, 8-byte header, 2-byte tag. -/
example : decodeIdFromList true
    (enc (mkArr (.defn .w8) [.int false .w2 4, .str false .w0 [1, 2], .int false .w2 300]) ++ [0xaa])
    = some 4 :=
  decodeId_follows_tag (.defn .w8) .w2 4 [.str false .w0 [1, 2], .int false .w2 300] [0xaa]
    (by decide) (by decide) (by decide) (by decide)

example : (findSum GV.Gen.SumTypes.table "nativescript").map (·.variant 1) = some (.lab "NativeScriptAll") := by
  decide

/-- Non-vacuity of the nested statement: a Conway UTXOW failure `[[6, [[0, [2, x]]]]]` whose inner
    list has a 2-byte header: the navigation reaches the tagged list. -/
example : nav (.arr .w0 [.arr .w0 [.int false .w0 6, .arr .w0 [.arr .w0 [.int false .w0 0,
      mkArr (.defn .w1) [.int false .w0 2, .arr .w0 []]]]]]) [0, 1, 0, 1]
    = some (mkArr (.defn .w1) [.int false .w0 2, .arr .w0 []]) := rfl

end GV.Props.C03
