import GV.Model.OutputValue
import GV.Gen.RuleLists
/-!
C08 — Transaction output values stay within the ledger's value range.

No transaction output accepted by decoding plus UTxO validation carries a
negative asset quantity or a quantity above 2^64-1, in any era that has
multi-assets. As a consequence, a transaction that passes value conservation
cannot create tokens out of nothing by pairing a positive and a negative output.
-/
namespace GV.Props.C08
open GV.Model.OutputValue

theorem all_of_decodeOk (t : Tx) (h : decodeOk t = true) :
    ∀ q ∈ quantities t, 0 ≤ q ∧ q ≤ 18446744073709551615 := by
  intro q hq
  have := (List.all_eq_true.mp h) q hq
  unfold qtyOk maxU64 at this
  rw [Bool.and_eq_true] at this
  exact ⟨of_decide_eq_true this.1, of_decide_eq_true this.2⟩

/-- Every quantity of every output of a decoded transaction is in 0..2^64−1. -/
theorem decoded_qty_range (t : Tx) (h : run t ≠ .decodeErr) :
    ∀ q ∈ quantities t, 0 ≤ q ∧ q ≤ 18446744073709551615 := by
  apply all_of_decodeOk
  unfold run at h
  by_cases hd : decodeOk t = true
  · exact hd
  · simp [hd] at h

theorem le_sum (l : List Int) (h : ∀ q ∈ l, 0 ≤ q) : 0 ≤ l.sum ∧ ∀ q ∈ l, q ≤ l.sum := by
  induction l with
  | nil => simp
  | cons a l ih =>
    rw [List.forall_mem_cons] at h
    obtain ⟨hs, hle⟩ := ih h.2
    rw [List.sum_cons, List.forall_mem_cons]
    exact ⟨by omega, by omega, fun q hq => by have := hle q hq; omega⟩

/-- An accepted transaction conserves the token exactly, and no single output holds
    more than what the inputs and the mint field supply. -/
theorem accepted_conserves (t : Tx) (h : run t = .accepted) :
    (quantities t).sum = (t.inQty : Int) + t.mint ∧
    ∀ q ∈ quantities t, 0 ≤ q ∧ q ≤ (t.inQty : Int) + t.mint := by
  have hr := decoded_qty_range t (by rw [h]; decide)
  revert h
  fun_cases run t
  case case1 => intro h; cases h  -- `decodeOk t` fails: `.decodeErr`
  case case3 => intro h; cases h  -- `conserved t` fails: `.notConserved`
  case case2 _ hc =>  -- `hc : conserved t = true`: the one `.accepted` branch
    intro _
    have hs : (t.inQty : Int) + t.mint = (quantities t).sum := of_decide_eq_true hc
    refine ⟨hs.symm, fun q hq => ⟨(hr q hq).1, ?_⟩⟩
    rw [hs]; exact (le_sum _ fun q hq => (hr q hq).1).2 q hq

/-- Tokens cannot be created out of nothing: with nothing in the inputs and nothing
    minted, every output of an accepted transaction carries quantity 0 of the token —
    in particular no +k / −k pair. -/
theorem no_mint_from_nothing (t : Tx) (h : run t = .accepted) (hi : t.inQty = 0) (hm : t.mint = 0) :
    ∀ q ∈ quantities t, q = 0 := by
  intro q hq
  have := (accepted_conserves t h).2 q hq
  rw [hi, hm] at this
  omega

/-- What the decoder without the range test allowed (the decoder before /repo commit 79998cc):
    outputs +5 and −5 of a token that exists nowhere were accepted. -/
theorem old_decoder_counterexample :
    runOld { inQty := 0, mint := 0, outs := [some 5, some (-5)] } = .accepted ∧
    run { inQty := 0, mint := 0, outs := [some 5, some (-5)] } = .decodeErr ∧
    runOld { inQty := 0, mint := 0, outs := [some 1180591620717411303424, some (-1180591620717411303424)] } = .accepted := by
  decide

/-- (R) the conservation rule is in every multi-asset era's rule list. -/
theorem rules_listed :
    ∀ l ∈ [GV.Gen.RuleLists.mary, GV.Gen.RuleLists.alonzo, GV.Gen.RuleLists.babbage,
           GV.Gen.RuleLists.conway, GV.Gen.RuleLists.dijkstra],
      "UtxoValidateValueNotConservedUtxo" ∈ l := by
  -- membership by finding the name; no two names are ever compared for inequality
  simp only [List.forall_mem_cons, List.not_mem_nil, false_imp_iff, implies_true, and_true]
  simp only [GV.Gen.RuleLists.mary, GV.Gen.RuleLists.alonzo, GV.Gen.RuleLists.babbage,
    GV.Gen.RuleLists.conway, GV.Gen.RuleLists.dijkstra, List.mem_cons, true_or, or_true, and_self]

/-- Non-vacuity: accepted transactions with tokens exist (from inputs, minted, burnt). -/
example : run { inQty := 7, mint := 0, outs := [some 3, none, some 4] } = .accepted := by decide
example : run { inQty := 0, mint := 9, outs := [some 9] } = .accepted := by decide
example : run { inQty := 10, mint := -3, outs := [some 7] } = .accepted := by decide
example : run { inQty := 0, mint := 0, outs := [some 18446744073709551616] } = .decodeErr := by decide

end GV.Props.C08
