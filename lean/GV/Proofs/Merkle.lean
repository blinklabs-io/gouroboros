import GV.Model.Merkle
import GV.Spec.MerkleRef
import GV.Gen.GoLite
import GV.Proofs.GoLite
/-!
C35: the split point is described three times (hand model, GoLite
translation, reference); the first two are shown to return a power of two `p` with
`p < n ≤ 2p` (`IsSplit`), and the reference's `2 ^ log2 (n - 1)` is the only one.
-/
namespace GV.Proofs.Merkle
open GV.Model.Merkle GV.Spec.MerkleRef

/-- `p` is the largest power of two strictly below `n`; `largestPow2Below_spec` (Model/Merkle)
    states the same written out. -/
def IsSplit (n p : Nat) : Prop := ∃ k, p = 2 ^ k ∧ 2 ^ k < n ∧ n ≤ 2 * 2 ^ k

theorem IsSplit.eq_powerOfTwo {n p : Nat} (h : IsSplit n p) : p = powerOfTwo n := by
  obtain ⟨k, rfl, h1, h2⟩ := h
  have : Nat.log2 (n - 1) = k :=
    (Nat.log2_eq_iff (by omega)).mpr ⟨by omega, by rw [Nat.pow_succ]; omega⟩
  rw [powerOfTwo, this]

/-- the hand model of the Go loop computes the reference split point -/
theorem largestPow2Below_eq_powerOfTwo (n : Nat) (h : 2 ≤ n) :
    largestPow2Below n = powerOfTwo n :=
  IsSplit.eq_powerOfTwo (largestPow2Below_spec n h)

theorem mkTree_branch {items : List RBytes} (h : 2 ≤ items.length) :
    mkTree items = .branch (mkTree (items.take (powerOfTwo items.length)))
      (mkTree (items.drop (powerOfTwo items.length))) := by
  match items, h with
  | x :: y :: rest, _ => rw [mkTree]

theorem take_drop_ne_nil {α : Type} {l : List α} {i : Nat} (h0 : 0 < i) (h1 : i < l.length) :
    l.take i ≠ [] ∧ l.drop i ≠ [] := by
  constructor
  · exact List.ne_nil_of_length_pos (by rw [List.length_take]; omega)
  · exact List.ne_nil_of_length_pos (by rw [List.length_drop]; omega)

/-! ### the GoLite translation (64-bit wrapping `Int`) -/
open GV.Gen.GoLite

theorem genLoop_spec : ∀ (fuel k : Nat) (n : Int), 62 < k + fuel → (2:Int) ^ k < n → n ≤ 2 ^ 62 →
    ∃ k', largestPowerOfTwoBelow_loop1 fuel n (2 ^ k) = 2 ^ k' ∧ (2:Int) ^ k' < n ∧ n ≤ 2 * 2 ^ k' := by
  intro fuel
  induction fuel with
  | zero =>
    intro k n hk h1 h2
    have := Int.pow_lt_pow_of_lt (a := 2) (by decide) (show 62 < k by omega)
    omega
  | succ f ih =>
    intro k n hk h1 h2
    have hpos : (0:Int) < 2 ^ k := Int.pow_pos (by decide)
    have hw : wrapS 64 (2 ^ k * 2) = 2 ^ k * 2 :=
      GV.Proofs.GoLite.wrapS_of_lt (by decide) (by omega) (by omega)
    simp only [largestPowerOfTwoBelow_loop1, hw]
    by_cases hc : (2:Int) ^ k * 2 < n
    · simp only [hc, decide_true, ↓reduceIte]
      have := ih (k + 1) n (by omega) (by rw [Int.pow_succ]; exact hc) h2
      rwa [Int.pow_succ] at this
    · simp only [hc, decide_false, Bool.false_eq_true, ↓reduceIte]
      exact ⟨k, rfl, h1, by omega⟩

end GV.Proofs.Merkle
