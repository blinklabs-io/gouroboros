import GV.Proofs.Rewards
/-!
C45 — Reward calculation distributes exactly the reward pot.

Whenever reward calculation succeeds, the pool totals add up exactly to the reward pot.
Each pool's operator reward plus its delegator rewards add up exactly to that pool's
total, and no individual amount exceeds the pot (no wrap-around).

The theorems are about `GV.Model.Rewards.calculate`, the integer skeleton of
`CalculateRewards` / `distributePoolRewards` (after the `fix:` commit) in which every
float-derived quantity is an arbitrary function `fd : FD`: they hold for EVERY
floating-point behaviour. `pools` is the list of pools with parameters in the (arbitrary)
iteration order of the Go map; the delegators of each pool likewise.
-/
namespace GV.Props.C45
open GV.Model.Rewards GV.Proofs.Rewards

/-- The pool totals add up exactly to the reward pot. -/
theorem pools_sum_to_pot (pot : Nat) (fd : FD) (pools : List Pool) (hp : pot < W) (hne : pools ≠ []) :
    ((calculate pot fd pools).map (·.total)).sum = pot := by
  have hs := amounts_sum pot fd pools.length (List.length_pos_iff.mpr hne) hp pools 0 hne (Nat.zero_le _)
  simp only [calculate, List.map_map, Function.comp_def, distribute_total]
  rw [List.map_snd_zip (Nat.le_of_eq (amounts_length ..)), hs, Nat.sub_zero]

theorem mem_calculate {pot : Nat} {fd : FD} {pools : List Pool} {o : PoolOut} (hp : pot < W)
    (hne : pools ≠ []) (ho : o ∈ calculate pot fd pools) :
    o.total ≤ pot ∧ o.op + rewardSum o.dels = o.total := by
  have ht : o.total ≤ pot :=
    pools_sum_to_pot pot fd pools hp hne ▸ le_sum_of_mem (List.mem_map_of_mem ho)
  simp only [calculate, List.mem_map] at ho
  obtain ⟨⟨p, t⟩, _, rfl⟩ := ho
  rw [distribute_total] at ht ⊢
  exact ⟨ht, distribute_exact fd p t (Nat.lt_of_le_of_lt ht hp)⟩

/-- Each pool's operator reward plus its delegator rewards add up exactly to the pool's total. -/
theorem operator_plus_delegators_eq_total (pot : Nat) (fd : FD) (pools : List Pool) (hp : pot < W)
    (hne : pools ≠ []) : ∀ o ∈ calculate pot fd pools, o.op + o.delSum = o.total :=
  fun _ ho => (mem_calculate hp hne ho).2

/-- No individual amount exceeds the pot: nothing wraps around. -/
theorem each_le_pot (pot : Nat) (fd : FD) (pools : List Pool) (hp : pot < W) (hne : pools ≠ []) :
    ∀ o ∈ calculate pot fd pools,
      o.total ≤ pot ∧ o.op ≤ pot ∧ ∀ e ∈ o.dels, e.2.getD 0 ≤ pot := by
  intro o ho
  -- operator and delegators share `o.total ≤ pot`, so each part is below it
  obtain ⟨ht, hsum⟩ := mem_calculate hp hne ho
  refine ⟨ht, by omega, fun e he => ?_⟩
  have := le_rewardSum he
  omega

/-- every pool with parameters gets exactly one entry, in iteration order -/
theorem one_entry_per_pool (pot : Nat) (fd : FD) (pools : List Pool) :
    (calculate pot fd pools).map (·.idx) = pools.map (·.idx) := by
  simp only [calculate, List.map_map, Function.comp_def, distribute_idx]
  rw [show (fun x : Pool × Nat => x.fst.idx) = (fun p : Pool => p.idx) ∘ Prod.fst from rfl,
    ← List.map_map, List.map_fst_zip (Nat.le_of_eq (amounts_length ..).symm)]

def wPool (i : Nat) (cost : Nat) (dels : List Del) : Pool :=
  { idx := i, stake := 0, blocks := 0, cost := cost, mnum := 0, mden := 1, dels := dels }

/-- float behaviour of the DESIGN.md witness: float64(2^53+3) = 2^53+4, shares 1 and 0 -/
def wFD : FD :=
  { poolT := fun p => if p.idx = 0 then 2 ^ 53 + 4 else 0
    opPart := fun _ total => total + 1
    delPart := fun _ _ S => S + 1 }

/-- The arithmetic before the repair on that witness: the pool iterated first gets pot + 1,
    the last one wraps to 2^64 - 1. -/
theorem legacy_last_pool_wraps :
    Legacy.amounts (2 ^ 53 + 3) wFD [wPool 0 0 [], wPool 1 0 []] 0 = [2 ^ 53 + 4, 2 ^ 64 - 1] := by
  decide

/-- The repaired arithmetic on the same float behaviour: exact. The operator share (`wFD.opPart`
    rounds upwards) is clamped to all the pool has left after its cost, so the delegator loop is not
    entered (`loopGuard` fails) and `wFD.delPart` plays no part. -/
example :
    calculate (2 ^ 53 + 3) wFD [wPool 0 7 [⟨0, 5, true, false⟩, ⟨1, 5, false, false⟩], wPool 1 0 []]
      = [⟨0, 2 ^ 53 + 3, 2 ^ 53 + 3, [(0, none), (1, none)]⟩, ⟨1, 0, 0, []⟩] := by decide +kernel

example :
    calculate 1000 { poolT := fun p => if p.idx = 0 then 600 else 399, opPart := fun _ _ => 10,
                     delPart := fun _ d _ => d.stake * 100 }
      [wPool 0 50 [⟨0, 3, true, true⟩, ⟨1, 2, true, false⟩], wPool 1 500 [⟨0, 9, true, false⟩]]
      = [⟨0, 600, 100, [(0, some 300), (1, some 200)]⟩, ⟨1, 400, 400, [(0, none)]⟩] := by decide +kernel

end GV.Props.C45
