import GV.Model.Rewards
/-
  C45: the uint64 operations do not wrap where the code uses them,
  and the two loops keep their running totals below the amount being distributed.
-/
namespace GV.Proofs.Rewards
open GV.Model.Rewards

theorem subW_eq {a b : Nat} (hb : b ≤ a) (ha : a < W) : subW a b = a - b := by
  rw [subW, Nat.mod_eq_of_lt (Nat.lt_of_le_of_lt hb ha), Nat.sub_add_comm hb, Nat.add_mod_right,
    Nat.mod_eq_of_lt (Nat.lt_of_le_of_lt (Nat.sub_le a b) ha)]

theorem addW_eq {a b : Nat} (h : a + b < W) : addW a b = a + b := Nat.mod_eq_of_lt h

/-- the step of both loops: a float-derived amount `fd` clamped to what is left of a budget `S` of
    which `a` is spent -/
theorem take_step {S a : Nat} (fd : Nat) (ha : a ≤ S) (hS : S < W) :
    min fd (subW S a) ≤ S - a ∧ addW a (min fd (subW S a)) = a + min fd (subW S a) := by
  rw [subW_eq ha hS]
  have := Nat.min_le_right fd (S - a)
  exact ⟨this, addW_eq (by omega)⟩

theorem le_sum_of_mem {a : Nat} {l : List Nat} (h : a ∈ l) : a ≤ l.sum := by
  obtain ⟨s, t, rfl⟩ := List.append_of_mem h
  rw [List.sum_append_nat, List.sum_cons]
  omega

theorem amounts_sum (pot : Nat) (fd : FD) (n : Nat) (hn : n > 0) (hp : pot < W)
    (pools : List Pool) (d : Nat) (hne : pools ≠ []) (hd : d ≤ pot) :
    (amounts pot fd n pools d).sum = pot - d := by
  fun_induction amounts pot fd n pools d with
  | case1 => exact absurd rfl hne
  -- the last pool: adjusted or not, it gets exactly what is left
  | case2 p d t d' =>
    obtain ⟨ht, h1⟩ : t ≤ pot - d ∧ d' = d + t := take_step _ hd hp
    rw [List.sum_singleton, h1, lastAdjustCond, lastAdjust, subW_eq (by omega) hp, addW_eq (by omega)]
    split
    · omega
    · rename_i hc; simp [hn] at hc; omega
  -- more pools follow
  | case3 p q ps d t ih =>
    obtain ⟨ht, h1⟩ : t ≤ pot - d ∧ distributedNext d t = d + t := take_step _ hd hp
    rw [h1] at ih
    rw [List.sum_cons, h1, ih (by simp) (by omega)]
    omega

theorem amounts_length (pot : Nat) (fd : FD) (n : Nat) (pools : List Pool) (d : Nat) :
    (amounts pot fd n pools d).length = pools.length := by
  fun_induction amounts pot fd n pools d with
  | case1 | case2 => rfl
  | case3 p q ps d t ih => simp only [List.length_cons, ih]

/-- `PoolOut.delSum o` unfolds to `rewardSum o.dels`; the loops below return bare lists -/
def rewardSum (l : List (Nat × Option Nat)) : Nat := (l.map fun e => e.2.getD 0).sum

theorem rewardSum_cons (i : Nat) (r : Option Nat) (l : List (Nat × Option Nat)) :
    rewardSum ((i, r) :: l) = r.getD 0 + rewardSum l := rfl

theorem delRewards_sum (fd : FD) (p : Pool) (S : Nat) (hS : S < W) (ds : List Del) (a : Nat) (ha : a ≤ S) :
    (delRewards fd p S ds a).2 ≤ S ∧
      a + rewardSum (delRewards fd p S ds a).1 = (delRewards fd p S ds a).2 := by
  fun_induction delRewards fd p S ds a with
  | case1 a => exact ⟨ha, rfl⟩
  -- a registered delegator is rewarded
  | case2 d ds a _ r res ih =>
    obtain ⟨hr, h1⟩ : r ≤ S - a ∧ assignedNext a r = a + r := take_step _ ha hS
    rw [rewardSum_cons, Option.getD_some, ← Nat.add_assoc, ← h1]
    exact ih (by omega)
  -- an unregistered one gets no entry
  | case3 d ds a _ res ih =>
    rw [rewardSum_cons, Option.getD_none, Nat.zero_add]
    exact ih ha

theorem le_rewardSum {e : Nat × Option Nat} {l : List (Nat × Option Nat)} (h : e ∈ l) :
    e.2.getD 0 ≤ rewardSum l := le_sum_of_mem (List.mem_map_of_mem h)

theorem rewardSum_noDels (p : Pool) : rewardSum (noDels p) = 0 := by
  rw [rewardSum, List.sum_eq_zero_iff_forall_eq_nat]
  simp [noDels]

theorem opAfterMargin_le (fd : FD) (p : Pool) (total : Nat) (ht : total < W) (hc : p.cost < total) :
    opAfterMargin fd p total ≤ total := by
  unfold opAfterMargin opAfterShare
  split
  · obtain ⟨hm, he⟩ := take_step (wrap (fd.opPart p total)) (Nat.le_of_lt hc) ht
    rw [he]; omega
  · exact Nat.le_refl _

theorem stakeholderLoop_sum (fd : FD) (p : Pool) (S : Nat) (hS : S < W) :
    (stakeholderLoop fd p S).2 ≤ S ∧ rewardSum (stakeholderLoop fd p S).1 = (stakeholderLoop fd p S).2 := by
  unfold stakeholderLoop
  split
  · simpa using delRewards_sum fd p S hS p.dels 0 (Nat.zero_le _)
  · exact ⟨Nat.zero_le _, rewardSum_noDels p⟩

theorem opFinal_eq {op S assigned : Nat} (hS : S < W) (h : op + (S - assigned) < W) :
    opFinal op S assigned = op + (S - assigned) := by
  unfold opFinal remainderCond opWithRemainder
  split
  · rename_i hc
    rw [subW_eq (Nat.le_of_lt (by simpa using hc)) hS, addW_eq h]
  · rename_i hc
    have : ¬ S > assigned := by simpa using hc
    omega

theorem distribute_total (fd : FD) (p : Pool) (t : Nat) : (distribute fd p t).total = t := by
  unfold distribute; split <;> rfl

theorem distribute_idx (fd : FD) (p : Pool) (t : Nat) : (distribute fd p t).idx = p.idx := by
  unfold distribute; split <;> rfl

theorem distribute_exact (fd : FD) (p : Pool) (total : Nat) (ht : total < W) :
    (distribute fd p total).op + rewardSum (distribute fd p total).dels = total := by
  unfold distribute
  split
  · simp [rewardSum_noDels]
  · rename_i hc
    have hc : p.cost < total := by simpa [costGuard] using hc
    have hop := opAfterMargin_le fd p total ht hc
    generalize opAfterMargin fd p total = op at hop ⊢
    rw [stakeholderTotal, subW_eq hop ht]
    obtain ⟨l1, l2⟩ := stakeholderLoop_sum fd p (total - op) (by omega)
    show opFinal op (total - op) _ + rewardSum _ = total
    rw [l2, opFinal_eq (by omega) (by omega)]
    omega

end GV.Proofs.Rewards
