import GV.Model.CborId
/-!
  `ListLength`, `DecodeIdFromList` and the navigation to a nested tagged list (GV.Model.CborId) on
  the encoding of a list in any header form (`mkArr`): the fast paths on bytes 0 and 1 and the
  fallback through the generic decoder give the length and the first item of the tree.
-/
namespace GV.Proofs.CborId
open GV.CborT GV.Model.CborId

inductive Form | defn (w : W) | indef
deriving DecidableEq, Repr

def mkArr : Form → List Cbor → Cbor
  | .defn w, xs => .arr w xs
  | .indef, xs => .arrI xs

theorem mkArr_valid_head {f : Form} {x : Cbor} {xs : List Cbor} (hv : (mkArr f (x :: xs)).valid = true) :
    x.valid = true := by
  cases f <;> simp only [mkArr, Cbor.valid, validL, Bool.and_eq_true] at hv
  · exact hv.2.1
  · exact hv.1

/-- Byte 0 lies in the fast-path range `0x80..0x97` only when it is a one-byte header: then it
    carries the length, and byte 1 is the initial byte of the first item. -/
theorem enc_list_fast (f : Form) (x : Cbor) (xs : List Cbor) (rest : Bytes)
    (hv : (mkArr f (x :: xs)).valid = true) :
    ∃ b0 b1 r, enc (mkArr f (x :: xs)) ++ rest = b0 :: b1 :: r ∧
      ((0x80 ≤ b0.toNat ∧ b0.toNat ≤ 0x97) →
        b0.toNat = 0x80 + (xs.length + 1) ∧ (enc x).head? = some b1) := by
  obtain ⟨b1, t, hx⟩ := List.exists_cons_of_length_pos (enc_length_pos x)
  cases f with
  | indef =>
    -- byte 0 is 0x9f, outside the range
    refine ⟨0x9f, b1, t ++ (encL xs ++ [0xff] ++ rest), ?_, fun h => absurd h (by decide)⟩
    simp [mkArr, enc, encL, hx]
  | defn w =>
    by_cases hw : w = .w0
    · subst hw
      have hlen : xs.length + 1 < 24 := by
        simp only [mkArr, Cbor.valid, Bool.and_eq_true, W.fits, decide_eq_true_eq, List.length_cons] at hv
        exact hv.1
      refine ⟨UInt8.ofNat (4 * 32 + (xs.length + 1)), b1, t ++ (encL xs ++ rest), ?_, fun _ => ⟨?_, ?_⟩⟩
      · simp [mkArr, enc, encL, head, W.ai, W.nbytes, be, hx]
      · rw [UInt8.toNat_ofNat']; omega
      · rw [hx]; rfl
    · -- a wider header: byte 0 is 0x98..0x9b, byte 1 the first byte of the length
      obtain ⟨b1', t', hbe⟩ := List.exists_cons_of_length_pos (l := be w.nbytes (xs.length + 1))
        (by rw [be_length]; cases w <;> simp_all [W.nbytes])
      refine ⟨UInt8.ofNat (4 * 32 + w.ai (xs.length + 1)), b1', t' ++ (encL (x :: xs) ++ rest), ?_,
        fun h => absurd h ?_⟩
      · simp [mkArr, enc, head, hbe]
      · rw [UInt8.toNat_ofNat']
        cases w <;> simp_all [W.ai]

theorem rawListLen_enc (f : Form) (xs : List Cbor) (rest : Bytes)
    (hv : (mkArr f xs).valid = true) (hd : depth (mkArr f xs) ≤ maxNested) (he : elemsOk xs = true) :
    rawListLen (enc (mkArr f xs) ++ rest) = some xs.length := by
  unfold rawListLen
  rw [decode_enc _ hv rest]
  have : ¬ depth (mkArr f xs) > maxNested := by omega
  cases f <;> simp [mkArr] at this ⊢ <;> simp [this, he]

theorem firstViaValue_enc (f : Form) (w : W) (k : Nat) (xs : List Cbor) (rest : Bytes)
    (hv : (mkArr f (.int false w k :: xs)).valid = true) (hk : k ≤ maxInt) :
    firstViaValue (enc (mkArr f (.int false w k :: xs)) ++ rest) = some k := by
  unfold firstViaValue
  rw [decode_enc _ hv rest]
  have : ¬ k > maxInt := by omega
  cases f <;> simp [mkArr, this]

theorem tagOfTree_enc (f : Form) (w : W) (k : Nat) (xs : List Cbor) (rest : Bytes)
    (hv : (mkArr f (.int false w k :: xs)).valid = true) :
    tagOfTree (enc (mkArr f (.int false w k :: xs)) ++ rest) = some k := by
  unfold tagOfTree
  rw [decode_enc _ hv rest]
  cases f <;> simp [mkArr]

theorem listLength_enc (f : Form) (x : Cbor) (xs : List Cbor) (rest : Bytes)
    (hv : (mkArr f (x :: xs)).valid = true) (hd : depth (mkArr f (x :: xs)) ≤ maxNested)
    (he : elemsOk (x :: xs) = true) :
    listLength (enc (mkArr f (x :: xs)) ++ rest) = some (xs.length + 1) := by
  have hraw := rawListLen_enc f (x :: xs) rest hv hd he
  obtain ⟨b0, b1, r, he, hfast⟩ := enc_list_fast f x xs rest hv
  rw [he] at hraw ⊢
  simp only [listLength]
  by_cases h : 0x80 ≤ b0.toNat ∧ b0.toNat ≤ 0x97
  · rw [if_pos h, (hfast h).1, Nat.add_sub_cancel_left]
  · rw [if_neg h]; exact hraw

theorem decodeId_unfold (vok : Bool) (b0 b1 : UInt8) (r : Bytes) :
    decodeIdFromList vok (b0 :: b1 :: r) =
      match listLength (b0 :: b1 :: r) with
      | none => none
      | some 0 => none
      | some n =>
        if n < 23 ∧ (0x80 ≤ b0.toNat ∧ b0.toNat ≤ 0x97) ∧ b1.toNat ≤ 0x17 then some b1.toNat
        else if vok then firstViaValue (b0 :: b1 :: r) else none := by
  rfl

/-- C03 core: for every header form of the list and every width of the tag,
    `DecodeIdFromList` returns the first item. -/
theorem decodeId_enc (f : Form) (w : W) (k : Nat) (xs : List Cbor) (rest : Bytes)
    (hv : (mkArr f (.int false w k :: xs)).valid = true)
    (hd : depth (mkArr f (.int false w k :: xs)) ≤ maxNested) (hk : k ≤ maxInt)
    (he : elemsOk xs = true) :
    decodeIdFromList true (enc (mkArr f (.int false w k :: xs)) ++ rest) = some k := by
  have hlen := listLength_enc f _ xs rest hv hd (by simp [elemsOk, tagChainOk, he])
  have hfirst := firstViaValue_enc f w k xs rest hv hk
  obtain ⟨b0, b1, r, he, hfast⟩ := enc_list_fast f _ xs rest hv
  rw [he] at hlen hfirst ⊢
  rw [decodeId_unfold, hlen]
  simp only [hfirst]
  by_cases hc : xs.length + 1 < 23 ∧ (0x80 ≤ b0.toNat ∧ b0.toNat ≤ 0x97) ∧ b1.toNat ≤ 0x17
  · -- the byte-1 shortcut: behind a one-byte header byte 1 is the initial byte of the tag,
    -- which holds the tag itself when it is below 24
    rw [if_pos hc]
    have hb1 : b1 = UInt8.ofNat (0 * 32 + w.ai k) := (Option.some.inj (hfast hc.2.1).2).symm
    have hai := W.ai_lt w k (mkArr_valid_head hv)
    have h1 : b1.toNat = w.ai k := by rw [hb1, UInt8.toNat_ofNat']; omega
    have h23 : w.ai k ≤ 0x17 := by rw [← h1]; exact hc.2.2
    obtain rfl : w = .w0 := by cases w <;> simp [W.ai] at h23 ⊢
    rw [h1]; rfl
  · rw [if_neg hc]; simp

theorem subBytes_enc (e : SumInfo) (T U : Cbor) (rest : Bytes) (hT : T.valid = true)
    (hg : e.guards.all (guardOk T) = true) (hnav : nav T e.path = some U) :
    ∃ rest', subBytes e (enc T ++ rest) = some (enc U ++ rest') := by
  unfold subBytes
  cases hp : e.path with
  | nil =>
    rw [hp] at hnav
    cases hnav
    exact ⟨rest, rfl⟩
  | cons i p =>
    rw [hp] at hnav
    exact ⟨[], by simp [decode_enc T hT rest, hg, hnav]⟩

end GV.Proofs.CborId
