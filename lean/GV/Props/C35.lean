import GV.Model.Merkle
import GV.Spec.MerkleRef
import GV.Proofs.Merkle
import GV.Gen.GoLite
import GV.Gen.SrcG7
/-!
C35 — Byron merkle roots follow the reference construction.

The Byron transaction merkle root of any list of items equals the reference
construction (cardano-ledger `mkMerkleTree`).  Leaves are tagged with 0 and
branches with 1, and a node splits its items at the largest power of two
strictly below their count.  An empty list hashes the empty string.

The hash function is an arbitrary parameter `h` of every theorem.
-/
namespace GV.Props.C35
open GV.Model.Merkle GV.Spec.MerkleRef GV.Proofs.Merkle

/-- The split point as translated from the Go source (GoLite, 64-bit wrapping
    arithmetic) is, for every length a Go slice can have, a power of two `p`
    with `p < n ≤ 2p` — i.e. the largest power of two strictly below `n`. -/
theorem split_is_pow2_below (n : Int) (h2 : 2 ≤ n) (hmax : n ≤ 2 ^ 62) :
    ∃ k : Nat, GV.Gen.GoLite.largestPowerOfTwoBelow n = 2 ^ k ∧
      (2:Int) ^ k < n ∧ n ≤ 2 * 2 ^ k := by
  have := genLoop_spec 64 0 n (by omega) (by simpa using (by omega : (1:Int) < n)) hmax
  simpa [GV.Gen.GoLite.largestPowerOfTwoBelow] using this

/-- The translated Go function agrees with the reference's `powerOfTwo`… -/
theorem gen_split_eq_reference (n : Nat) (h2 : 2 ≤ n) (hmax : n ≤ 2 ^ 62) :
    GV.Gen.GoLite.largestPowerOfTwoBelow (n : Int) = (powerOfTwo n : Int) := by
  obtain ⟨k, hk, hlt, hle⟩ := split_is_pow2_below (n : Int) (by omega) (by exact_mod_cast hmax)
  have : IsSplit n (2 ^ k) := ⟨k, rfl, by exact_mod_cast hlt, by exact_mod_cast hle⟩
  rw [hk, ← this.eq_powerOfTwo]
  simp

/-- …and so with the hand model used by `merkleNode`. -/
theorem gen_split_eq_model (n : Nat) (h2 : 2 ≤ n) (hmax : n ≤ 2 ^ 62) :
    GV.Gen.GoLite.largestPowerOfTwoBelow (n : Int) = (largestPow2Below n : Int) := by
  rw [gen_split_eq_reference n h2 hmax, largestPow2Below_eq_powerOfTwo n h2]

/-- The Go-shaped recursion over a non-empty list is the root of the reference tree. -/
theorem node_eq_reference (h : Bytes → Bytes) (items : List Bytes) (hne : items ≠ []) :
    merkleNode h items = (mkTree items).root h := by
  fun_induction merkleNode h items with
  | case1 => exact absurd rfl hne
  | case2 x => simp [mkTree, Tree.root, merkleLeafTag]
  | case3 x y rest n split left right ih1 ih2 =>
    have hb := largestPow2Below_bounds n (by simp [n])
    have hs : split = powerOfTwo n := largestPow2Below_eq_powerOfTwo n (by simp [n])
    obtain ⟨h1, h2⟩ := take_drop_ne_nil (l := x :: y :: rest) hb.1 hb.2.1
    rw [mkTree]
    simp only [Tree.root, merkleBranchTag]
    rw [← hs, ← ih1 h1, ← ih2 h2]

/-- **Main theorem.** For every hash function and every list of items, of any
    length, `MerkleRoot` equals the reference construction. -/
theorem merkle_eq_reference (h : Bytes → Bytes) (items : List Bytes) :
    merkleRoot h items = refRoot h items := by
  cases items with
  | nil => simp [merkleRoot, refRoot]
  | cons x xs => simp [merkleRoot, refRoot, node_eq_reference h (x :: xs) (by simp)]

/-- An empty list hashes the empty string. -/
theorem merkle_empty (h : Bytes → Bytes) : merkleRoot h [] = h [] := by
  simp [merkleRoot]

/-- A single item is a leaf: tag 0 followed by the item. -/
theorem merkle_single (h : Bytes → Bytes) (x : Bytes) : merkleRoot h [x] = h (0 :: x) := by
  simp [merkleRoot, merkleNode, merkleLeafTag]

/-- Two or more items: tag 1, then the roots of the first `p` and the remaining
    items, where `p` is the largest power of two strictly below the count. -/
theorem merkle_branch (h : Bytes → Bytes) (items : List Bytes) (h2 : 2 ≤ items.length) :
    ∃ k : Nat, 2 ^ k < items.length ∧ items.length ≤ 2 * 2 ^ k ∧
      merkleRoot h items =
        h (1 :: (merkleRoot h (items.take (2 ^ k)) ++ merkleRoot h (items.drop (2 ^ k)))) := by
  match items, h2 with
  | x :: y :: rest, _ =>
    obtain ⟨k, hk, hlt, hle⟩ := largestPow2Below_spec (x :: y :: rest).length (by simp)
    refine ⟨k, hlt, hle, ?_⟩
    obtain ⟨e1, e2⟩ := take_drop_ne_nil (l := x :: y :: rest) (Nat.pow_pos (by decide)) hlt
    simp only [merkleRoot, List.isEmpty_iff, e1, e2, List.cons_ne_nil, ↓reduceIte]
    rw [merkleNode]
    simp only [hk, merkleBranchTag]

/-- The reference tree keeps the items in order at its leaves. -/
theorem mkTree_leaves (items : List Bytes) (hne : items ≠ []) :
    (mkTree items).leaves = items := by
  fun_induction mkTree items with
  | case1 => exact absurd rfl hne
  | case2 x => simp [Tree.leaves]
  | case3 x y rest i ih1 ih2 =>
    obtain ⟨h1, h2⟩ := take_drop_ne_nil (powerOfTwo_pos (x :: y :: rest).length)
      (powerOfTwo_lt (x :: y :: rest).length (by simp))
    simp only [Tree.leaves, ih1 h1, ih2 h2, List.take_append_drop]

theorem powerOfTwo_pow2 (k : Nat) : powerOfTwo (2 ^ (k + 1)) = 2 ^ k := by
  have hk := Nat.pow_pos (n := k) (by decide : 0 < 2)
  exact (IsSplit.eq_powerOfTwo ⟨k, rfl, by rw [Nat.pow_succ]; omega, by rw [Nat.pow_succ]; omega⟩).symm

/-- **Shape**: a list of exactly 2^k items becomes the perfect binary tree of depth k. -/
theorem mkTree_pow2_perfect (k : Nat) : ∀ items : List RBytes, items.length = 2 ^ k →
    (mkTree items).perfect k := by
  induction k with
  | zero =>
    intro items h
    match items, h with
    | [x], _ => simp [mkTree, Tree.perfect]
  | succ k ih =>
    intro items h
    have hk := Nat.pow_pos (n := k) (by decide : 0 < 2)
    rw [mkTree_branch (by rw [h, Nat.pow_succ]; omega), h, powerOfTwo_pow2]
    exact ⟨k, rfl, ih _ (by rw [List.length_take, h, Nat.pow_succ]; omega),
      ih _ (by rw [List.length_drop, h, Nat.pow_succ]; omega)⟩

/-- **Shape**: with two or more items the root is a branch whose LEFT subtree is
    the perfect tree over the first 2^k items, 2^k < count ≤ 2^(k+1) — the tree
    is left-heavy exactly as in the reference implementation. -/
theorem mkTree_left_perfect (items : List RBytes) (h2 : 2 ≤ items.length) :
    ∃ k l r, mkTree items = .branch l r ∧ l.perfect k ∧ l.leaves = items.take (2 ^ k) ∧
      2 ^ k < items.length ∧ items.length ≤ 2 ^ (k + 1) := by
  have hlt := powerOfTwo_lt items.length h2
  have hle := le_two_powerOfTwo items.length
  refine ⟨Nat.log2 (items.length - 1), _, _, mkTree_branch h2, ?_, ?_, hlt, ?_⟩
  · apply mkTree_pow2_perfect
    rw [List.length_take]; unfold powerOfTwo at hlt ⊢; omega
  · exact mkTree_leaves _ (take_drop_ne_nil (powerOfTwo_pos _) hlt).1
  · rw [Nat.pow_succ]; unfold powerOfTwo at hle; omega

/-! ### what the tags buy (symbolic model of the hash) -/

theorem root_eq_rootG (h : RBytes → RBytes) (t : Tree) :
    t.root h = t.rootG (fun x => h (0 :: x)) (fun l r => h (1 :: (l ++ r))) := by
  induction t with
  | leaf x => rfl
  | branch l r ihl ihr => simp [Tree.root, Tree.rootG, ihl, ihr]

/-- With an ideal (collision-free) leaf hash and pair hash whose ranges are
    disjoint — which is what the tags 0 and 1 are for — the root determines the tree. -/
theorem tree_root_injective {D : Type} (hl : RBytes → D) (hb : D → D → D)
    (hli : ∀ x y, hl x = hl y → x = y)
    (hbi : ∀ a b c d, hb a b = hb c d → a = c ∧ b = d)
    (hdisj : ∀ x a b, hl x ≠ hb a b) :
    ∀ t1 t2 : Tree, t1.rootG hl hb = t2.rootG hl hb → t1 = t2 := by
  intro t1
  induction t1 with
  | leaf x =>
    intro t2 h
    cases t2 with
    | leaf y => rw [hli x y h]
    | branch l r => exact absurd h (hdisj _ _ _)
  | branch l r ihl ihr =>
    intro t2 h
    cases t2 with
    | leaf y => exact absurd h.symm (hdisj _ _ _)
    | branch l' r' =>
      obtain ⟨h1, h2⟩ := hbi _ _ _ _ h
      rw [ihl l' h1, ihr r' h2]

/-- …and therefore the item list: two non-empty lists with the same root are equal
    (no second list, of any length, shares a root — in the symbolic model). -/
theorem merkle_root_binds_items {D : Type} (hl : RBytes → D) (hb : D → D → D)
    (hli : ∀ x y, hl x = hl y → x = y)
    (hbi : ∀ a b c d, hb a b = hb c d → a = c ∧ b = d)
    (hdisj : ∀ x a b, hl x ≠ hb a b)
    (l1 l2 : List RBytes) (h1 : l1 ≠ []) (h2 : l2 ≠ [])
    (h : (mkTree l1).rootG hl hb = (mkTree l2).rootG hl hb) : l1 = l2 := by
  have := tree_root_injective hl hb hli hbi hdisj _ _ h
  rw [← mkTree_leaves l1 h1, ← mkTree_leaves l2 h2, this]

/-- the hypotheses are satisfiable: the free algebra (digest = the tree itself) -/
example : ∀ l1 l2 : List RBytes, l1 ≠ [] → l2 ≠ [] →
    (mkTree l1).rootG Tree.leaf Tree.branch = (mkTree l2).rootG Tree.leaf Tree.branch → l1 = l2 :=
  fun l1 l2 h1 h2 h => merkle_root_binds_items Tree.leaf Tree.branch
    (fun _ _ h => by injection h) (fun _ _ _ _ h => by injection h with a b; exact ⟨a, b⟩)
    (fun _ _ _ h => by cases h) l1 l2 h1 h2 h

/-- Regenerated tie: `MerkleRoot` / `merkleNode` as re-extracted from the source on every run are the
    statements `GV.Model.Merkle` mirrors (tags, split call, recursion on items[:split] / items[split:]). -/
theorem source_as_modelled :
    GV.Gen.SrcG7.merkleRoot = [
  "if len(items) == 0 { return common.Blake2b256Hash(nil) }",
  "return merkleNode(items)"] ∧
    GV.Gen.SrcG7.merkleNode = [
  "if len(items) == 1 { return common.Blake2b256Hash(append([]byte{merkleLeafTag}, items[0]...)) }",
  "split := largestPowerOfTwoBelow(len(items))",
  "left := merkleNode(items[:split])",
  "right := merkleNode(items[split:])",
  "combined := make([]byte, 0, 1+len(left)+len(right))",
  "combined = append(combined, merkleBranchTag)",
  "combined = append(combined, left[:]...)",
  "combined = append(combined, right[:]...)",
  "return common.Blake2b256Hash(combined)"] :=
  ⟨rfl, rfl⟩

/-! Non-vacuity and concrete shapes (toy hash = identity, so the root spells the tree). -/
example : merkleRoot id [[7], [8], [9]] = [1, 1, 0, 7, 0, 8, 0, 9] := by
  simp [merkleRoot, merkleNode, largestPow2Below, lp2Loop, merkleLeafTag, merkleBranchTag]
example : refRoot id [[7], [8], [9]] = [1, 1, 0, 7, 0, 8, 0, 9] := by
  simp [refRoot, mkTree, powerOfTwo, Tree.root, show Nat.log2 2 = 1 by decide, show Nat.log2 1 = 0 by decide]
example : mkTree [[1], [2], [3], [4], [5]] =
    .branch (.branch (.branch (.leaf [1]) (.leaf [2])) (.branch (.leaf [3]) (.leaf [4]))) (.leaf [5]) := by
  simp [mkTree, powerOfTwo, show Nat.log2 4 = 2 by decide, show Nat.log2 3 = 1 by decide,
    show Nat.log2 1 = 0 by decide]
example : GV.Gen.GoLite.largestPowerOfTwoBelow 5 = 4 ∧ GV.Gen.GoLite.largestPowerOfTwoBelow 4 = 2 ∧
    GV.Gen.GoLite.largestPowerOfTwoBelow 2 = 1 := by decide

end GV.Props.C35
