import GV.Lib.CborLite
import GV.Lib.CborTree
/-
  Round trips for GV.Lib.CborLite: what `head` / `encBytes` write, `readHead` / `readBytes` /
  `readUint` read back, whatever follows. It is the head layer of `GV.CborT` with the widths
  forgotten (`head` writes the shortest width, `readHead` reads any width and does not report it),
  and the round trips come from there.
-/
namespace GV.Proofs.CborLite
open GV.Lib.CborLite
open GV.CborT (W be fromBe)

theorem toNat_ofNat_lt (k : Nat) (h : k < 256) : (UInt8.ofNat k).toNat = k :=
  UInt8.toNat_ofNat_of_lt' h

theorem beN_eq_be : ∀ (w n : Nat), beN w n = be w n
  | 0, _ => rfl
  | w + 1, n => by rw [beN, be, beN_eq_be w]

theorem fromBE_eq_fromBe (b : Bytes) : fromBE b = fromBe b := rfl

theorem head_eq (m n : Nat) : head m n = GV.CborT.head m (W.minimal n) n := by
  simp only [W.minimal, apply_ite (GV.CborT.head m · n)]; rfl

theorem readHead_eq (b : Bytes) :
    readHead b = match GV.CborT.readHead b with
      | some (m, .val _ n, r) => some (m, .val n, r)
      | some (m, .indef, r) => some (m, .indef, r)
      | none => none := by
  cases b with
  | nil => rfl
  | cons x tl =>
    -- both are ladders over the additional information; `2 ^ (ai - 24)` is the width it names
    simp only [readHead, GV.CborT.readHead, GV.CborT.readArg]
    generalize x.toNat % 32 = ai
    grind [W.nbytes, fromBE_eq_fromBe]

theorem beN_length (w n : Nat) : (beN w n).length = w := by
  rw [beN_eq_be, GV.CborT.be_length]

theorem head_length (m n : Nat) :
    (head m n).length =
      if n < 24 then 1 else if n < 256 then 2 else if n < 65536 then 3
      else if n < 4294967296 then 5 else 9 := by
  grind [head, beN_length]

def two64 : Nat := 18446744073709551616

theorem readHead_head (m n : Nat) (hm : m < 8) (hn : n < two64) (rest : Bytes) :
    readHead (head m n ++ rest) = some (m, .val n, rest) := by
  rw [readHead_eq, head_eq, GV.CborT.readHead_head m _ n rest hm (W.minimal_fits hn)]

theorem readBytes_enc (b : Bytes) (hb : b.length < two64) (rest : Bytes) :
    readBytes (encBytes b ++ rest) = some (b, rest) := by
  unfold readBytes encBytes
  rw [List.append_assoc, readHead_head 2 b.length (by decide) hb]
  simp [List.take_left' rfl, List.drop_left' rfl]

theorem readUint_head (n : Nat) (hn : n < two64) (rest : Bytes) :
    readUint (head 0 n ++ rest) = some (n, rest) := by
  unfold readUint
  simp only [readHead_head 0 n (by decide) hn]

theorem fromBE_cons (x : UInt8) (l : Bytes) : fromBE (x :: l) = x.toNat * 256 ^ l.length + fromBE l := by
  -- induction from the last byte, where `fromBe_append_single` applies
  rw [← l.reverse_reverse]
  induction l.reverse with
  | nil => simp [fromBE]
  | cons y t ih =>
    simp only [fromBE_eq_fromBe, List.reverse_cons, ← List.cons_append,
      GV.CborT.fromBe_append_single] at ih ⊢
    rw [ih, List.length_append, List.length_singleton, Nat.pow_succ, Nat.add_mul, Nat.mul_assoc,
      Nat.add_assoc]

/-- the digits produced so far go in front of `acc`: reading the result continues the fold over `acc` from `n` -/
theorem fromBE_natBytesAux : ∀ (f n : Nat) (acc : Bytes), n < 256 ^ f →
    fromBE (natBytesAux f n acc) = acc.foldl (fun a x => a * 256 + x.toNat) n
  | 0, n, acc, h => by
    obtain rfl : n = 0 := by simpa using h
    rfl
  | f + 1, n, acc, h => by
    unfold natBytesAux
    by_cases h0 : n = 0
    · subst h0; rfl
    · have hlt : n / 256 < 256 ^ f := by
        rw [Nat.div_lt_iff_lt_mul (by decide), ← Nat.pow_succ]; exact h
      rw [if_neg h0, fromBE_natBytesAux f _ _ hlt, List.foldl_cons,
        toNat_ofNat_lt _ (Nat.mod_lt _ (by decide)), Nat.div_add_mod']

theorem fromBE_natBytes (n : Nat) : fromBE (natBytes n) = n :=
  fromBE_natBytesAux (n + 1) n [] (Nat.lt_trans (Nat.lt_pow_self (by decide))
    (Nat.pow_lt_pow_right (by decide) (Nat.lt_succ_self n)))

theorem head_length_mono (m : Nat) {n n' : Nat} (h : n ≤ n') :
    (head m n).length ≤ (head m n').length := by
  simp only [head_length]; grind

theorem fixN_self {n : Nat} {b : Bytes} (h : b.length = n) : fixN n b = b := List.take_left' h

end GV.Proofs.CborLite
