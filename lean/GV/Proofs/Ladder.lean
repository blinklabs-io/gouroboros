/-!
Inverting a ladder of early exits `if c₁ then a₁ else if c₂ then a₂ else … r` one step at a
time, by rewriting instead of case splits.
-/
namespace GV

theorem ite_eq_of_ne {α : Type} {c : Prop} [Decidable c] {a x y : α} (h : a ≠ y) :
    (if c then a else x) = y ↔ ¬ c ∧ x = y := by
  split <;> simp [*]

end GV
