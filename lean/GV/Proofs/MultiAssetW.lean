import GV.Proofs.MultiAsset
import GV.Proofs.StepSystem
/-
  C06, fixed-width instantiations (`MultiAsset[int64]`, `MultiAsset[uint64]`): `Add` with the
  machine wrap.
-/
namespace GV.Proofs.MultiAssetW
open GV.Model.MultiAsset GV.Lib.AssocMap GV.Lib.CborLite GV.Proofs.MultiAsset

theorem wf_addInnerW (w : Int → Int) (p : Bytes) (inner : Inner) {m : MA} (h : WF m) :
    WF (addInnerW w p m inner) :=
  GV.StepSystem.foldl_invariant (P := WF) inner (fun _ _ _ h => wf_setAsset h _ _ _) h

theorem qty_addInnerW (w : Int → Int) (p : Bytes) (inner : Inner) (hn : NodupKeys inner)
    (m : MA) (p' n' : Bytes) :
    qty (addInnerW w p m inner) p' n' =
      if p' = p ∧ n' ∈ keys inner then w (qty m p' n' + ival inner n') else qty m p' n' := by
  induction inner generalizing m with
  | nil => simp [addInnerW]
  | cons e t ih =>
    rw [nodupKeys_cons] at hn
    have step : addInnerW w p m (e :: t) =
        addInnerW w p (setAsset m p e.1 (some (w (qty m p e.1 + val e.2)))) t := rfl
    rw [step, ih hn.2, qty_setAsset, ival_cons]
    simp only [keys_cons, List.mem_cons]
    by_cases hp : p' = p
    · subst hp
      by_cases hk : n' = e.1
      · subst hk
        have h1 : e.1 ∉ keys t := hn.1
        simp [h1]; rfl
      · have h2 : ¬ e.1 = n' := fun h => hk h.symm
        simp [hk, h2]
    · simp [hp]

/-- `Add` rewrites, and so wraps, exactly the entries the operand `b` has a key for (zero and nil
    amounts included). -/
theorem qty_addW_touched (w : Int → Int) (b : MA) (hb : WF b) (a : MA) (p n : Bytes) :
    qty (addW w a b) p n =
      if n ∈ keys (innerOf b p) then w (qty a p n + qty b p n) else qty a p n := by
  induction b generalizing a with
  | nil => rfl
  | cons e t ih =>
    obtain ⟨h1, h2, h3⟩ := wf_cons hb
    have step : addW w a (e :: t) = addW w (addInnerW w e.1 a e.2) t := rfl
    rw [step, ih h3, qty_addInnerW w e.1 e.2 h2, qty_cons, innerOf_cons]
    by_cases hp : e.1 = p
    · subst hp
      have : innerOf t e.1 = [] := by unfold innerOf; rw [lookup_eq_none_iff.mpr h1]; rfl
      simp [this]
    · have hp' : ¬ p = e.1 := fun h => hp h.symm
      simp [hp, hp']

/-- `MultiAsset[*big.Int].Add` is the case of no wrap. -/
theorem add_eq_addW (a b : MA) : add a b = addW id a b := rfl
theorem addInner_eq_addInnerW (p : Bytes) (m : MA) (i : Inner) :
    addInner p m i = addInnerW id p m i := rfl

/-- the signed wrap is the unsigned one, shifted: its laws follow from those of `%` -/
theorem wrapS64_eq (x : Int) :
    wrapS64 x = wrapU64 (x + 9223372036854775808) - 9223372036854775808 := rfl

theorem wrapU64_idem (x : Int) : wrapU64 (wrapU64 x) = wrapU64 x :=
  Int.emod_emod_of_dvd _ (Int.dvd_refl _)
theorem wrapU64_add (x y : Int) : wrapU64 (wrapU64 x + y) = wrapU64 (x + y) := Int.emod_add_emod ..
theorem wrapS64_idem (x : Int) : wrapS64 (wrapS64 x) = wrapS64 x := by
  rw [wrapS64_eq (wrapS64 x), wrapS64_eq x, Int.sub_add_cancel, wrapU64_idem]
theorem wrapS64_add (x y : Int) : wrapS64 (wrapS64 x + y) = wrapS64 (x + y) := by
  rw [wrapS64_eq (wrapS64 x + y), wrapS64_eq x, Int.add_right_comm, Int.sub_add_cancel, wrapU64_add,
    Int.add_right_comm, ← wrapS64_eq]
theorem wrapS64_id (x : Int) (h : isInt64 x = true) : wrapS64 x = x := by
  unfold isInt64 at h; simp only [Bool.and_eq_true, decide_eq_true_eq] at h
  unfold wrapS64; omega
theorem wrapU64_id (x : Int) (h : isUint64 x = true) : wrapU64 x = x := by
  unfold isUint64 at h; simp only [Bool.and_eq_true, decide_eq_true_eq] at h
  unfold wrapU64; omega

end GV.Proofs.MultiAssetW
