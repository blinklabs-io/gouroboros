import GV.Model.Threshold
import Mathlib.Analysis.SpecialFunctions.Pow.Real
import GV.Proofs.ThresholdCert
import GV.Gen.SrcG7
/-!
C37 — The leadership threshold is the exact floor of the Praos formula.

For every pool stake, total stake and active-slot coefficient f in [0,1], the
leadership threshold equals ⌊2^k · (1 − (1 − f)^σ)⌋ with σ = pool/total capped
at 1 and k = 256 (Praos) or 512 (TPraos); otherwise an error is returned.  The
threshold is monotone in σ and in f, and a VRF leader value makes a pool
eligible exactly when it is below the threshold.

`Tspec` is the formula over the reals (`Real.rpow`).  The Go code evaluates it
with an exact rational fast path or a big.Float ln/exp pipeline; that pipeline
is not proved here.  What is proved: the properties of the formula, the guard
ladder of the code against the formula, and the soundness of the certificates
against which the correspondence run validates the outputs of the pipeline
(translation validation, GV/Drv/C37): the integer certificate `certOK` while its
powers stay small enough to compute (`certOK_sound`), the exact-root certificate
`exactOK` (`exactOK_sound`) and the rational certificate of
`GV.Model.ThresholdCert.check` (`ratcert_sound`) for any denominator, and, where
none of these is found, the enclosure between the `certOK`-certified thresholds of
two neighbouring fractions (`enclosure_sound`); the interval evaluation that
decides inside such an enclosure is not proved.
-/
namespace GV.Props.C37
open GV.Model.Threshold

/-- the Praos formula: ⌊U · (1 − (1 − f)^σ)⌋ -/
noncomputable def Tspec (U : ℕ) (σ f : ℝ) : ℤ := ⌊(U : ℝ) * (1 - (1 - f) ^ σ)⌋

/-! ### monotonicity -/

theorem floor_anti (U : ℕ) {x x' : ℝ} (h : x' ≤ x) : ⌊(U : ℝ) * (1 - x)⌋ ≤ ⌊(U : ℝ) * (1 - x')⌋ :=
  Int.floor_le_floor (mul_le_mul_of_nonneg_left (sub_le_sub_left h 1) U.cast_nonneg)

/-- more relative stake never lowers the threshold -/
theorem T_mono_sigma (U : ℕ) (f σ σ' : ℝ) (hf0 : 0 ≤ f) (hf1 : f ≤ 1) (hσ : 0 ≤ σ) (h : σ ≤ σ') :
    Tspec U σ f ≤ Tspec U σ' f :=
  floor_anti U (Real.rpow_le_rpow_of_exponent_ge' (sub_nonneg.mpr hf1) (sub_le_self 1 hf0) hσ h)

/-- a larger active-slot coefficient never lowers the threshold -/
theorem T_mono_f (U : ℕ) (σ f f' : ℝ) (hσ : 0 ≤ σ) (hf' : f' ≤ 1) (h : f ≤ f') :
    Tspec U σ f ≤ Tspec U σ f' :=
  floor_anti U (Real.rpow_le_rpow (sub_nonneg.mpr hf') (sub_le_sub_left h 1) hσ)

/-! ### the formula at the guards -/

theorem spec_f_zero (U : ℕ) (σ : ℝ) : Tspec U σ 0 = 0 := by
  simp [Tspec]

theorem spec_sigma_zero (U : ℕ) (f : ℝ) : Tspec U 0 f = 0 := by
  simp [Tspec]

theorem spec_f_one (U : ℕ) (σ : ℝ) (hσ : 0 < σ) : Tspec U σ 1 = U := by
  simp [Tspec, Real.zero_rpow hσ.ne']

theorem spec_sigma_one (U : ℕ) (f : ℝ) : Tspec U 1 f = ⌊(U : ℝ) * f⌋ := by
  simp [Tspec]

theorem spec_range (U : ℕ) (σ f : ℝ) (hf0 : 0 ≤ f) (hf1 : f ≤ 1) (hσ : 0 ≤ σ) :
    0 ≤ Tspec U σ f ∧ Tspec U σ f ≤ U := by
  have hx0 : 0 ≤ 1 - f := sub_nonneg.mpr hf1
  -- x = (1 − f)^σ lies between 0 and 1, and ⌊U·(1 − x)⌋ is 0 at x = 1 and `U` at x = 0
  have h1 := floor_anti U (Real.rpow_le_one hx0 (sub_le_self 1 hf0) hσ)
  have h0 := floor_anti U (Real.rpow_nonneg hx0 σ)
  simpa [Tspec] using And.intro h1 h0

/-! ### the certificate checker -/

theorem rpow_div_pow {q : ℝ} (hq : 0 ≤ q) (n : ℕ) {m : ℕ} (hm : 0 < m) :
    (q ^ ((n:ℝ) / m)) ^ m = q ^ n := by
  rw [← Real.rpow_mul_natCast hq, div_mul_cancel₀ _ (Nat.cast_ne_zero.mpr hm.ne'), Real.rpow_natCast]

theorem pow_rpow_div {q : ℝ} (hq : 0 ≤ q) (n : ℕ) {m : ℕ} (hm : 0 < m) :
    (q ^ m) ^ ((n:ℝ) / m) = q ^ n := by
  rw [← Real.rpow_natCast_mul hq, mul_div_cancel₀ _ (Nat.cast_ne_zero.mpr hm.ne'), Real.rpow_natCast]

/-- the integer comparison of `certOK`: take m-th powers, where `((a/b)^(n/m))^m = a^n / b^n` -/
theorem cert_le_iff {a b n m U : ℕ} (hb : 0 < b) (hm : 0 < m) (S : ℕ) :
    U ^ m * a ^ n ≤ S ^ m * b ^ n ↔ (U:ℝ) * ((a:ℝ) / b) ^ ((n:ℝ) / m) ≤ S := by
  have hbn : (0:ℝ) < (b:ℝ) ^ n := by positivity
  have hq0 : (0:ℝ) ≤ (a:ℝ) / b := div_nonneg a.cast_nonneg b.cast_nonneg
  rw [← pow_le_pow_iff_left₀ (mul_nonneg U.cast_nonneg (Real.rpow_nonneg hq0 _)) S.cast_nonneg hm.ne',
    mul_pow, rpow_div_pow hq0 n hm, div_pow, ← mul_div_assoc, div_le_iff₀ hbn]
  exact_mod_cast Iff.rfl

/-- **Soundness of the certificate**: if `certOK a b n m U T` holds then `T` is
    exactly the Praos formula at 1 − f = a/b and σ = n/m. -/
theorem certOK_sound (a b n m U T : ℕ) (hb : 0 < b) (hm : 0 < m)
    (h : certOK a b n m U T = true) :
    (T : ℤ) = Tspec U ((n : ℝ) / m) (1 - (a : ℝ) / b) := by
  simp only [certOK, Bool.and_eq_true, decide_eq_true_eq] at h
  obtain ⟨⟨hT, h1⟩, h2⟩ := h
  -- with x = (a/b)^(n/m):  U·x ≤ U − T  and  U − T − 1 < U·x
  have c1 := (cert_le_iff hb hm (U - T)).mp h1
  have c2 := (lt_iff_lt_of_le_iff_le (cert_le_iff hb hm (U - T - 1))).mp h2
  rw [Nat.cast_sub hT.le] at c1
  rw [Nat.cast_sub (by omega), Nat.cast_sub hT.le, Nat.cast_one] at c2
  rw [Tspec, sub_sub_cancel]
  exact GV.Proofs.ThresholdCert.floor_of_enclosure le_rfl le_rfl (by linarith only [c1]) (by linarith only [c2])

/-- the certificate determines `T` (pure arithmetic corollary) -/
theorem certOK_unique (a b n m U T T' : ℕ) (hb : 0 < b) (hm : 0 < m)
    (h : certOK a b n m U T = true) (h' : certOK a b n m U T' = true) : T = T' := by
  have := certOK_sound a b n m U T hb hm h
  have := certOK_sound a b n m U T' hb hm h'
  omega

/-- **Soundness of the enclosure** used for large denominators: certified thresholds
    of two fractions around σ bracket the formula at σ. -/
theorem enclosure_sound (a b n m nl ml nh mh U Tl Th : ℕ) (hb : 0 < b) (hab : a ≤ b)
    (hm : 0 < m) (hml : 0 < ml) (hmh : 0 < mh)
    (hlo : nl * m ≤ n * ml) (hhi : n * mh ≤ nh * m)
    (cl : certOK a b nl ml U Tl = true) (ch : certOK a b nh mh U Th = true) :
    (Tl : ℤ) ≤ Tspec U ((n : ℝ) / m) (1 - (a : ℝ) / b) ∧
    Tspec U ((n : ℝ) / m) (1 - (a : ℝ) / b) ≤ Th := by
  have hmR : (0:ℝ) < m := Nat.cast_pos.mpr hm
  have hf0 : (0:ℝ) ≤ 1 - (a:ℝ) / b :=
    sub_nonneg.mpr ((div_le_one (Nat.cast_pos.mpr hb)).mpr (Nat.cast_le.mpr hab))
  have hf1 : 1 - (a:ℝ) / b ≤ 1 := sub_le_self 1 (div_nonneg a.cast_nonneg b.cast_nonneg)
  have s1 : (nl:ℝ) / ml ≤ (n:ℝ) / m := by
    rw [div_le_div_iff₀ (Nat.cast_pos.mpr hml) hmR]; exact_mod_cast hlo
  have s2 : (n:ℝ) / m ≤ (nh:ℝ) / mh := by
    rw [div_le_div_iff₀ hmR (Nat.cast_pos.mpr hmh)]; exact_mod_cast hhi
  rw [certOK_sound a b nl ml U Tl hb hml cl, certOK_sound a b nh mh U Th hb hmh ch]
  exact ⟨T_mono_sigma U _ _ _ hf0 hf1 (div_nonneg nl.cast_nonneg ml.cast_nonneg) s1,
         T_mono_sigma U _ _ _ hf0 hf1 (div_nonneg n.cast_nonneg m.cast_nonneg) s2⟩

/-- **The exact fast path of the code is the formula**: when 1 − f = (r/s)^m the
    code returns ⌊U · (s^n − r^n) / s^n⌋ by integer arithmetic; this is the Praos
    formula at σ = n/m. -/
theorem exactPath_eq_spec (r s n m U : ℕ) (hs : 0 < s) (hrs : r ≤ s) (hm : 0 < m) :
    ((U * (s ^ n - r ^ n) / s ^ n : ℕ) : ℤ) =
      Tspec U ((n : ℝ) / m) (1 - ((r ^ m : ℕ) : ℝ) / ((s ^ m : ℕ) : ℝ)) := by
  have hsn : (s:ℝ) ^ n ≠ 0 := pow_ne_zero n (Nat.cast_ne_zero.mpr hs.ne')
  -- U·(1 − (r/s)^n) is a quotient of two naturals, and the floor of such a quotient is `Nat` division
  have e : (U:ℝ) * (1 - (1 - (1 - ((r ^ m : ℕ) : ℝ) / ((s ^ m : ℕ) : ℝ))) ^ ((n:ℝ) / m)) =
      ((U * (s ^ n - r ^ n) : ℕ) : ℝ) / ((s ^ n : ℕ) : ℝ) := by
    rw [sub_sub_cancel, Nat.cast_pow, Nat.cast_pow, ← div_pow,
      pow_rpow_div (div_nonneg r.cast_nonneg s.cast_nonneg) n hm, div_pow, Nat.cast_mul,
      Nat.cast_sub (Nat.pow_le_pow_left hrs n), Nat.cast_pow, Nat.cast_pow, mul_div_assoc, sub_div,
      div_self hsn]
  rw [Tspec, e, Int.floor_div_natCast, Int.floor_natCast, Int.natCast_ediv]

/-- **Soundness of the exact-root certificate** (any denominator m): it is the code's exact
    rational fast path, and that path is the formula. -/
theorem exactOK_sound (a b n m U r s T : ℕ) (h : exactOK a b n m U r s T = true) :
    (T : ℤ) = Tspec U ((n : ℝ) / m) (1 - (a : ℝ) / b) := by
  simp only [exactOK, Bool.and_eq_true, decide_eq_true_eq] at h
  obtain ⟨⟨⟨⟨⟨hs, hrs⟩, hm⟩, ha⟩, hb⟩, hT⟩ := h
  rw [hT, ← ha, ← hb]
  exact exactPath_eq_spec r s n m U hs hrs hm

/-- **The escalation decision is sound given an enclosure**: if the probability p = 1 − (1−f)^σ is
    enclosed by pLo ≤ p ≤ pHi, p < 1, and the two integer thresholds computed from the ends (the upper
    one capped at U − 1, as `thresholdFromBoundedProbability` does: /repo commit 0ba1433) coincide, then
    that common value is ⌊U·p⌋.  So a wrong result can only come from a wrong ENCLOSURE, never from the
    decision to stop escalating. -/
theorem interval_resolves (U : ℕ) (p pLo pHi : ℝ) (hU : 0 < U) (hp : p < 1) (h1 : pLo ≤ p) (h2 : p ≤ pHi)
    (h : min ⌊(U : ℝ) * pLo⌋ ((U : ℤ) - 1) = min ⌊(U : ℝ) * pHi⌋ ((U : ℤ) - 1)) :
    ⌊(U : ℝ) * p⌋ = min ⌊(U : ℝ) * pLo⌋ ((U : ℤ) - 1) := by
  have a1 := Int.floor_le_floor (mul_le_mul_of_nonneg_left h1 U.cast_nonneg)
  have a2 := Int.floor_le_floor (mul_le_mul_of_nonneg_left h2 U.cast_nonneg)
  have a3 : ⌊(U : ℝ) * p⌋ < (U : ℤ) :=
    Int.floor_lt.mpr (by push_cast; exact mul_lt_of_lt_one_right (Nat.cast_pos.mpr hU) hp)
  have b1 : min ⌊(U : ℝ) * pLo⌋ ((U : ℤ) - 1) ≤ ⌊(U : ℝ) * p⌋ := le_trans (min_le_left _ _) a1
  have b2 : ⌊(U : ℝ) * p⌋ ≤ min ⌊(U : ℝ) * pHi⌋ ((U : ℤ) - 1) := le_min a2 (Int.le_sub_one_of_lt a3)
  omega

/-- the same with the enclosure given on (1−f)^σ, as the pipeline has it: lo ≤ x ≤ hi, 0 < x -/
theorem interval_resolves_pow (U : ℕ) (x lo hi : ℝ) (hU : 0 < U) (hx : 0 < x) (h1 : lo ≤ x) (h2 : x ≤ hi)
    (h : min ⌊(U : ℝ) * (1 - hi)⌋ ((U : ℤ) - 1) = min ⌊(U : ℝ) * (1 - lo)⌋ ((U : ℤ) - 1)) :
    ⌊(U : ℝ) * (1 - x)⌋ = min ⌊(U : ℝ) * (1 - hi)⌋ ((U : ℤ) - 1) :=
  interval_resolves U (1 - x) (1 - hi) (1 - lo) hU (sub_lt_self 1 hx) (sub_le_sub_left h2 1)
    (sub_le_sub_left h1 1) h

/-! ### the guard ladder of the code against the formula -/

/-- the coefficient as a real number -/
noncomputable def fR (i : Input) : ℝ := (i.fNum : ℝ) / i.fDen

/-- relative stake capped at 1 -/
noncomputable def sigmaR (i : Input) : ℝ := min ((i.pool : ℝ) / i.total) 1

theorem upperBound_none (m : ℕ) : upperBound m = none ↔ m ≠ 0 ∧ m ≠ 1 := by
  unfold upperBound
  split_ifs <;> simp [*]

/-- an unknown mode or f > 1 is an error, and only those -/
theorem guards_err_iff (i : Input) (hden : 0 < i.fDen) :
    (∃ k, guards i = .err k) ↔ (i.mode ≠ 0 ∧ i.mode ≠ 1) ∨ (i.fNil = false ∧ fR i > 1) := by
  have hgt : fR i > 1 ↔ i.fNum > (i.fDen : ℤ) := by
    unfold fR
    rw [gt_iff_lt, one_lt_div (Nat.cast_pos.mpr hden)]
    exact_mod_cast Iff.rfl
  rw [hgt, ← upperBound_none]
  constructor
  · rintro ⟨k, hk⟩
    revert hk
    -- every rung but two returns a value or hands over the general case
    fun_cases guards i <;> intro hk <;> cases hk
    -- the unknown mode
    case mp.case1 hU => exact .inl hU
    -- the rung `f > 1` (`c2`), reached with the coefficient present (`c0`)
    case mp.case4 c0 c1 c2 => exact .inr ⟨by simpa using c0, c2⟩
  · unfold guards
    cases upperBound i.mode with
    | none => exact fun _ => ⟨_, rfl⟩
    | some U =>
      rintro (hU | ⟨hnil, hf⟩)
      · cases hU
      · simp only []
        rw [if_neg (by simp [hnil]), if_neg (by omega), if_pos hf]
        exact ⟨_, rfl⟩

/-- σ after the cap, as the code computes it -/
theorem capped_ratio (pool total : ℕ) (ht : 0 < total) :
    (((if pool > total then total else pool : ℕ) : ℝ) / total) = min ((pool : ℝ) / total) 1 := by
  have htR : (0:ℝ) < total := Nat.cast_pos.mpr ht
  have e : (if pool > total then total else pool) = min pool total := by
    split <;> omega
  rw [e, Nat.cast_min, ← min_div_div_right htR.le, div_self htR.ne']

/-- **The guard ladder against the formula, value case**: on the domain of the
    statement (known mode, coefficient present with 0 ≤ f, total stake > 0) every
    value the ladder returns directly is the Praos formula. -/
theorem guards_val_sound (i : Input) (U t : ℕ) (hU : upperBound i.mode = some U)
    (hden : 0 < i.fDen) (hnil : i.fNil = false) (hf0 : 0 ≤ i.fNum) (ht : 0 < i.total)
    (h : guards i = .val t) : (t : ℤ) = Tspec U (sigmaR i) (fR i) := by
  have hdR : (0:ℝ) < i.fDen := by exact_mod_cast hden
  have htR : (0:ℝ) < i.total := by exact_mod_cast ht
  revert h
  -- case1 is the unknown mode; the rungs of `guards` follow as case2 … case8
  fun_cases guards i <;> intro h <;> cases h
  -- coefficient absent: excluded by `hnil`
  case case2 hn => rw [hnil] at hn; cases hn
  -- `fNum ≤ 0`, so f = 0
  case case3 h1 =>
    have : fR i = 0 := by simp [fR, show i.fNum = 0 by omega]
    rw [this, spec_f_zero]; rfl
  -- `total = 0`: excluded by `ht`
  case case5 h0 => omega
  -- `pool = 0`, so σ = 0
  case case6 h3 =>
    have : sigmaR i = 0 := by simp [sigmaR, h3]
    rw [this, spec_sigma_zero]; rfl
  -- f = 1 (`h4`) with `pool ≠ 0` (`h3`): the value is `U`
  case case7 h3 h4 hU' =>
    cases hU.symm.trans hU'
    have hf : fR i = 1 := by unfold fR; rw [h4]; push_cast; exact div_self hdR.ne'
    have hs : 0 < sigmaR i :=
      lt_min (div_pos (by exact_mod_cast Nat.pos_of_ne_zero h3) htR) one_pos
    rw [hf, spec_f_one U _ hs]

/-- **…general case**: what is handed to the exact path / ln-exp pipeline is
    exactly 1 − f = a/b and σ = n/m (capped), with b, m > 0. -/
theorem guards_general_sound (i : Input) (a b n m U : ℕ)
    (hden : 0 < i.fDen) (h : guards i = .general a b n m U) :
    upperBound i.mode = some U ∧ 0 < b ∧ 0 < m ∧
      (a : ℝ) / b = 1 - fR i ∧ (n : ℝ) / m = sigmaR i := by
  have hdR : (0:ℝ) < i.fDen := by exact_mod_cast hden
  revert h
  -- no rung but the last hands over a general case
  fun_cases guards i <;> intro h <;> cases h
  -- binders in rung order: coefficient present, `c1 : ¬ fNum ≤ 0`, `c2 : ¬ fNum > fDen`,
  -- `c3 : total ≠ 0`, `pool ≠ 0`, the capped `pool`, `f ≠ 1`, then the `let`s of the last rung
  case case8 _ c1 c2 c3 _ pool _ g a0 gg hU =>
    have ht : 0 < i.total := Nat.pos_of_ne_zero c3
    refine ⟨hU, Nat.div_gcd_pos_of_pos_right _ hden, Nat.div_gcd_pos_of_pos_right _ ht, ?_, ?_⟩
    · rw [Nat.cast_div_div_div_cancel_right (Nat.gcd_dvd_right ..) (Nat.gcd_dvd_left ..),
        Nat.cast_sub (by omega), ← Int.cast_natCast i.fNum.toNat, Int.toNat_of_nonneg (by omega),
        sub_div, div_self hdR.ne']
      rfl
    · rw [Nat.cast_div_div_div_cancel_right (Nat.gcd_dvd_right ..) (Nat.gcd_dvd_left ..),
        capped_ratio i.pool i.total ht]
      rfl

theorem general_is_spec (i : Input) (a b n m U : ℕ) (hden : 0 < i.fDen)
    (hg : guards i = .general a b n m U) :
    Tspec U ((n : ℝ) / m) (1 - (a : ℝ) / b) = Tspec U (sigmaR i) (fR i) := by
  obtain ⟨_, _, _, e1, e2⟩ := guards_general_sound i a b n m U hden hg
  rw [e2, e1, sub_sub_cancel]

/-- **End to end**: an output `T` that passes the certificate for the general case
    handed over by the guard ladder is the Praos formula at the caller's f and σ. -/
theorem certified_output_correct (i : Input) (a b n m U T : ℕ) (hden : 0 < i.fDen)
    (hg : guards i = .general a b n m U) (hc : certOK a b n m U T = true) :
    (T : ℤ) = Tspec U (sigmaR i) (fR i) := by
  obtain ⟨_, hb, hm, _, _⟩ := guards_general_sound i a b n m U hden hg
  exact (certOK_sound a b n m U T hb hm hc).trans (general_is_spec i a b n m U hden hg)

/-! ### the rational certificate (any denominator) -/

/-- **Soundness of the rational certificate**: if `ThresholdCert.check a b n m U T c` holds then `T`
    is the Praos formula at 1 − f = a/b, σ = n/m — with no bound on m. -/
theorem ratcert_sound (a b n m U T : ℕ) (c : GV.Model.ThresholdCert.Cert)
    (h : GV.Model.ThresholdCert.check a b n m U T c = true) :
    (T : ℤ) = Tspec U ((n : ℝ) / m) (1 - (a : ℝ) / b) := by
  rw [Tspec, sub_sub_cancel]
  exact GV.Proofs.ThresholdCert.check_sound a b n m U T c h

/-- end to end: after the guard ladder, an output accepted by the rational checker is the formula
    at the caller's f and σ -/
theorem ratcert_output_correct (i : Input) (a b n m U T : ℕ) (c : GV.Model.ThresholdCert.Cert)
    (hden : 0 < i.fDen) (hg : guards i = .general a b n m U)
    (hc : GV.Model.ThresholdCert.check a b n m U T c = true) :
    (T : ℤ) = Tspec U (sigmaR i) (fR i) :=
  (ratcert_sound a b n m U T c hc).trans (general_is_spec i a b n m U hden hg)

/-- end to end for the exact-root certificate -/
theorem exact_output_correct (i : Input) (a b n m U r s T : ℕ)
    (hden : 0 < i.fDen) (hg : guards i = .general a b n m U)
    (hc : exactOK a b n m U r s T = true) :
    (T : ℤ) = Tspec U (sigmaR i) (fR i) :=
  (exactOK_sound a b n m U r s T hc).trans (general_is_spec i a b n m U hden hg)

/-! ### eligibility -/

/-- **a VRF leader value makes a pool eligible exactly when it is below the threshold** -/
theorem eligible_iff_lt (mode : ℕ) (lv : List UInt8 → List UInt8) (vrf : List UInt8) (t : ℕ)
    (hmode : mode = 0 ∨ mode = 1) (hv : vrf ≠ []) :
    below mode lv vrf (some t) = some true ↔
      beNat (if mode = 1 then vrf else lv vrf) < t := by
  have : ¬ (mode ≠ 0 ∧ mode ≠ 1) := by omega
  simp [below, this, hv]

theorem never_eligible_without_output (mode : ℕ) (lv : List UInt8 → List UInt8) (t : Option ℕ)
    (hmode : mode = 0 ∨ mode = 1) : below mode lv [] t = some false := by
  have : ¬ (mode ≠ 0 ∧ mode ≠ 1) := by omega
  cases t <;> simp [below, this]

/-- Regenerated tie: the top-level statements of the Go functions, re-extracted from the source on every
    run, are the ones `guards`, `below` and the eligibility model of the driver were written from (mode
    switch, guard ladder in this order, the threshold computed in the CALLER's mode, numerator and
    denominator roots both raised to n).  Any edit of these functions breaks this obligation. -/
theorem source_as_modelled :
    GV.Gen.SrcG7.certifiedNatThresholdWithMode = [
  "var upperBound *big.Int",
  "switch mode { case ConsensusModeCPraos: upperBound = twoTo256 case ConsensusModeTPraos: upperBound = twoTo512 default: return nil, fmt.Errorf(\"unknown consensus mode: %d\", mode) }",
  "if activeSlotCoeff == nil { return big.NewInt(0), nil }",
  "if activeSlotCoeff.Sign() <= 0 { return big.NewInt(0), nil }",
  "fCmpOne := activeSlotCoeff.Cmp(bigRatOne)",
  "if fCmpOne > 0 { return nil, fmt.Errorf(\"activeSlotCoeff must not exceed 1 (100%%), got %s\", activeSlotCoeff.RatString()) }",
  "if totalStake == 0 { return big.NewInt(0), nil }",
  "if poolStake == 0 { return big.NewInt(0), nil }",
  "if poolStake > totalStake { poolStake = totalStake }",
  "if fCmpOne == 0 { return new(big.Int).Set(upperBound), nil }",
  "oneMinusF := new(big.Rat).Sub(bigRatOne, activeSlotCoeff)",
  "if exact, ok := exactOneMinusFPowerSigmaThreshold(oneMinusF, poolStake, totalStake, upperBound); ok { return exact, nil }",
  "return escalateThreshold(oneMinusF, poolStake, totalStake, upperBound, seriesTargetBits, maxThresholdEscalationBits)"] ∧
    GV.Gen.SrcG7.isVRFOutputBelowThresholdWithMode = [
  "var useRawOutput bool",
  "switch mode { case ConsensusModeCPraos: case ConsensusModeTPraos: useRawOutput = true default: return false, fmt.Errorf(\"unknown consensus mode: %d\", mode) }",
  "if threshold == nil { return false, nil }",
  "if len(vrfOutput) == 0 { return false, nil }",
  "var leaderValue []byte",
  "if useRawOutput { leaderValue = vrfOutput } else { leaderValue = VrfLeaderValue(vrfOutput) }",
  "vrfInt := VRFOutputToInt(leaderValue)",
  "return vrfInt.Cmp(threshold) < 0, nil"] ∧
    GV.Gen.SrcG7.isSlotLeaderFromComponentsWithMode = [
  "switch mode { case ConsensusModeCPraos, ConsensusModeTPraos: default: return false, fmt.Errorf(\"unknown consensus mode: %d\", mode) }",
  "if activeSlotCoeff == nil || totalStake == 0 || poolStake == 0 { return false, nil }",
  "if len(vrfOutput) != 64 { return false, nil }",
  "threshold, err := CertifiedNatThresholdWithMode(poolStake, totalStake, activeSlotCoeff, mode)",
  "if err != nil { return false, err }",
  "return IsVRFOutputBelowThresholdWithMode(vrfOutput, threshold, mode)"] ∧
    GV.Gen.SrcG7.exactOneMinusFPowerSigma = [
  "g := new(big.Int).GCD(nil, nil, new(big.Int).SetUint64(poolStake), new(big.Int).SetUint64(totalStake))",
  "n := new(big.Int).Quo(new(big.Int).SetUint64(poolStake), g)",
  "m := new(big.Int).Quo(new(big.Int).SetUint64(totalStake), g)",
  "numRoot, ok := exactIntegerNthRoot(oneMinusF.Num(), m)",
  "if !ok { return nil, false }",
  "denRoot, ok := exactIntegerNthRoot(oneMinusF.Denom(), m)",
  "if !ok { return nil, false }",
  "return new(big.Rat).SetFrac(new(big.Int).Exp(numRoot, n, nil), new(big.Int).Exp(denRoot, n, nil)), true"] ∧
    GV.Gen.SrcG7.exactOneMinusFPowerSigmaThreshold = [
  "powerExact, ok := exactOneMinusFPowerSigma(oneMinusF, poolStake, totalStake)",
  "if !ok { return nil, false }",
  "probabilityExact := new(big.Rat).Sub(bigRatOne, powerExact)",
  "threshold := new(big.Int).Mul(upperBound, probabilityExact.Num())",
  "threshold.Quo(threshold, probabilityExact.Denom())",
  "return threshold, true"] := ⟨rfl, rfl, rfl, rfl, rfl⟩

/-! non-vacuity -/
example : exactOK 1 4 1 2 (2 ^ 256) 1 2 (2 ^ 255) = true := by decide
example : certOK 1 4 1 2 (2 ^ 256) (2 ^ 255) = true := by decide   -- f = 3/4, σ = 1/2: exactly half
example : certOK 19 20 1 1 1000 50 = true := by decide             -- σ = 1: ⌊1000·(1/20)⌋
example : guards ⟨0, 1, 2, false, 3, 4⟩ = .general 1 4 1 2 (2 ^ 256) := by decide

end GV.Props.C37
