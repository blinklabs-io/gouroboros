import GV.Model.VersionData
import GV.Proofs.VersionData
import GV.Lib.VersionTable
import GV.Proofs.VersionTable
/-!
C20 — The supported-version tables are internally consistent.

The NtC list contains only NtC versions and the NtN list only NtN versions, each sorted
ascending. The version data generated for a version encodes and then decodes, with that
version's own decoder, to the same network magic, diffusion mode, peer sharing and query
flags. Eras enabled by a version are a prefix of the era sequence that never shrinks as
versions increase.

The table statements are `decide`d over `GV.Gen.Versions`, which is dumped from the running
code on every check (all 65536 version numbers scanned); the codec statement is proved for
every magic < 2^32 and every flag combination over the byte-level model.
-/
namespace GV.Props.C20
open GV.Model.VersionData GV.Model.Handshake GV.Proofs.VersionData GV.Gen.Versions

def row? (v : Nat) := table.find? (fun r => r.1 == v)
/-- decoder kind of `GetProtocolVersion(v)` (0 = none) -/
def kindOf (v : Nat) : Nat := match row? v with | some r => r.2.1 | none => 0
def erasOf (v : Nat) : List Bool := match row? v with | some r => r.2.2.1 | none => []
/-- number of leading enabled eras -/
def eraCount (fl : List Bool) : Nat := (fl.takeWhile id).length
/-- enabled eras form a prefix of Shelley, Allegra, Mary, Alonzo, Babbage, Conway, Dijkstra -/
def isPrefix (fl : List Bool) : Bool := (fl.dropWhile id).all (fun b => !b)

/-- `GetProtocolVersionsNtC()` contains only node-to-client versions: at or above the NtC offset
    and with a node-to-client decoder. -/
theorem ntc_only_ntc : ∀ v ∈ ntcList, ntcOffset ≤ v ∧ (kindOf v = 1 ∨ kindOf v = 2) := by decide

/-- `GetProtocolVersionsNtN()` contains only node-to-node versions. -/
theorem ntn_only_ntn : ∀ v ∈ ntnList, v < ntcOffset ∧ (kindOf v = 3 ∨ kindOf v = 4 ∨ kindOf v = 5) := by
  decide

/-- Every list is strictly ascending. -/
theorem lists_sorted :
    ntcList.Pairwise (· < ·) ∧ ntnList.Pairwise (· < ·) ∧
    dmqNtcList.Pairwise (· < ·) ∧ dmqNtnList.Pairwise (· < ·) := by decide

/-- The four lists are exactly the version numbers (out of all 65536) that `GetProtocolVersion`
    knows: nothing known is missing from the lists, nothing listed is unknown. -/
theorem lists_complete :
    scanned = 65536 ∧
    table.map (·.1) = sortAsc (ntcList ++ ntnList ++ dmqNtcList ++ dmqNtnList) ∧
    ∀ r ∈ table, 1 ≤ r.2.1 ∧ r.2.1 ≤ 5 := by decide

/-- Enabled eras are a prefix of the era sequence, and the prefix never shrinks as the version
    increases, in every list. -/
theorem eras_prefix_monotone :
    ∀ l ∈ [ntcList, ntnList, dmqNtcList, dmqNtnList],
      (∀ v ∈ l, (erasOf v).length = 7 ∧ isPrefix (erasOf v) = true) ∧
      (l.map fun v => eraCount (erasOf v)).Pairwise (· ≤ ·) := by decide

/-- The generated maps have exactly the listed versions as keys, and the Go type of every
    generated entry is the type that version's own decoder produces. -/
theorem generated_matches_decoder :
    ∀ p ∈ [(mapNtC, ntcList), (mapNtN, ntnList), (mapDmqNtC, dmqNtcList), (mapDmqNtN, dmqNtnList)],
      p.1.map (·.1) = p.2 ∧ ∀ e ∈ p.1, kindOf e.1 = e.2 ∧ GV.Lib.VersionTable.lk e.1 = Kind.ofNat? e.2 ∧
        (Kind.ofNat? e.2).isSome = true := by decide

/-- The peer-sharing field the real generators wrote (dumped) is the one `genEntry` writes. -/
theorem ps_values_match :
    ∀ r ∈ psValues, ∃ k, Kind.ofNat? (kindOf r.2.1) = some k ∧
      (genEntry k 1 false false false).ps = r.2.2.1 ∧ (genEntry k 1 false true false).ps = r.2.2.2 := by
  decide

/-- **Codec round trip**, all magics (not sampled), all flag combinations, every entry type:
    the generated entry decodes from its own encoding, with the decoder of its own type, to
    itself. -/
theorem versiondata_roundtrip (k : Kind) (magic : Nat) (hm : magic < 4294967296) (dm ps q : Bool) :
    decode k (encode (genEntry k magic dm ps q)) = some (genEntry k magic dm ps q) := by
  have h := GV.Proofs.VersionData.decode_encode _ (GV.Proofs.VersionTable.genEntry_wf k magic hm dm ps q) []
  rwa [List.append_nil, GV.Proofs.VersionTable.genEntry_kind] at h

theorem generated_accessors (k : Kind) (magic : Nat) (dm ps q : Bool) :
    let e := genEntry k magic dm ps q
    e.networkMagic = magic ∧
    e.diffusionMode = (match k with | .ntc9 | .ntc15 => true | _ => dm) ∧
    e.peerSharing = (match k with | .ntn11 | .ntn13 => ps | _ => false) ∧
    e.query = (match k with | .ntc15 | .ntn11 | .ntn13 => q | _ => false) := by
  cases k <;> cases ps <;> simp [genEntry, VData.networkMagic, VData.diffusionMode, VData.peerSharing, VData.query]

/-- **The property**, for every version of every table: the entry generated for it (any magic
    below 2^32, any diffusion / peer-sharing / query flags) encodes and decodes with that
    version's own decoder to data whose four accessors answer the same as the entry's. -/
theorem table_roundtrip :
    ∀ shape ∈ [mapNtC, mapNtN, mapDmqNtC, mapDmqNtN], ∀ e ∈ shape,
      ∃ k, Kind.ofNat? e.2 = some k ∧ GV.Lib.VersionTable.lk e.1 = some k ∧
        ∀ magic, magic < 4294967296 → ∀ dm ps q : Bool,
          ∃ d, decode k (encode (genEntry k magic dm ps q)) = some d ∧
            d.networkMagic = (genEntry k magic dm ps q).networkMagic ∧
            d.diffusionMode = (genEntry k magic dm ps q).diffusionMode ∧
            d.peerSharing = (genEntry k magic dm ps q).peerSharing ∧
            d.query = (genEntry k magic dm ps q).query := by
  intro shape hs e he
  obtain ⟨hlk, hsome⟩ := GV.Proofs.VersionTable.shape_kinds_match shape hs e he
  obtain ⟨k, hk⟩ := Option.isSome_iff_exists.mp hsome
  exact ⟨k, hk, hlk.trans hk, fun magic hm dm ps q => ⟨_, versiondata_roundtrip k magic hm dm ps q, rfl, rfl, rfl, rfl⟩⟩

/-- Non-vacuity: a concrete NtN V13 entry on mainnet. -/
example : decode .ntn13 (encode (genEntry .ntn13 764824073 false true false)) =
    some { kind := .ntn13, magic := 764824073, dm := false, ps := 1, q := false } := by decide

/-- V11/12 write peer sharing as 2, V13+ as 1; both read back as enabled. -/
example : (genEntry .ntn11 1 true true false).ps = 2 ∧ (genEntry .ntn13 1 true true false).ps = 1 ∧
    (genEntry .ntn11 1 true true false).peerSharing = true ∧
    (genEntry .ntn13 1 true true false).peerSharing = true := by decide

end GV.Props.C20
