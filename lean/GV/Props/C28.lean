import GV.Model.Witness
import GV.Model.WitnessSym
import GV.Gen.RuleLists
import GV.Gen.WitnessFacts
/-!
C28 — Spending requires a valid signature from the owner.

If signature validation accepts a transaction, then every key-locked input and every
collateral input is owned by a key whose verification key appears in the witnesses (or, for
Byron inputs, a bootstrap witness that derives the address root). Every supplied witness
signature verifies against the transaction id, and every required signer has a witness.

Theorems are about `GV.Model.Witness` for an arbitrary instance `P` of the primitives.
-/
namespace GV.Props.C28
open GV.Model.Witness

variable {VKey Sig Hash Msg CC Attr : Type}
variable (P : Prims VKey Sig Hash Msg CC Attr) [DecidableEq Hash]

theorem mem_provided (t : Tx VKey Sig Hash Msg CC Attr) (h : Hash)
    (hc : (provided P t).contains h = true) : ∃ w ∈ t.vkeys, P.h224 w.vkey = h := by
  simpa [provided] using hc

/-- the shape of the collateral and the required-signer check: nothing to look at, or some vkey
    witness and every element passes -/
theorem all_of_guarded {α : Type} {l : List α} {e : Bool} {f : α → Bool}
    (h : (if l.isEmpty then true else if e then false else l.all f) = true) :
    ∀ x ∈ l, f x = true := by
  intro x hx
  cases l with
  | nil => cases hx
  | cons a r =>
    cases e
    · exact List.all_eq_true.mp h x hx
    · cases h

/-- **Full statement**: acceptance by the three rules gives every clause of the property. -/
theorem accepted_sound (t : Tx VKey Sig Hash Msg CC Attr) (h : accepted P t = true) :
    -- every key-locked input has its owner's verification key among the witnesses
    (∀ o ∈ t.inputs, ∀ kh, o = Owner.key kh → ∃ w ∈ t.vkeys, P.h224 w.vkey = kh) ∧
    -- every Byron input has such a key, or a bootstrap witness deriving the address root
    (∀ o ∈ t.inputs, ∀ r, o = Owner.byron r →
        (∃ w ∈ t.vkeys, P.h224 w.vkey = r) ∨
        (∃ b ∈ t.boots, b.pkLen = 32 ∧ b.ccLen = 32 ∧ P.byronRoot b.pk b.cc b.attrs = r)) ∧
    -- every collateral input resolves, is key-owned, and that key is among the witnesses
    (∀ o ∈ t.collateral, ∃ kh, (o = Owner.key kh ∨ o = Owner.byron kh) ∧
        ∃ w ∈ t.vkeys, P.h224 w.vkey = kh) ∧
    -- every supplied vkey / bootstrap signature verifies against the transaction id
    (∀ w ∈ t.vkeys, w.vkeyLen = 32 ∧ w.sigLen = 64 ∧ P.verify w.vkey t.txId w.sig = true) ∧
    (∀ b ∈ t.boots, b.pkLen = 32 ∧ b.sigLen = 64 ∧ P.verify b.pk t.txId b.sig = true) ∧
    -- every required signer has a witness
    (∀ r ∈ t.required, ∃ w ∈ t.vkeys, P.h224 w.vkey = r) := by
  unfold accepted utxoValidateSignatures at h
  simp only [Bool.and_eq_true] at h
  obtain ⟨⟨⟨⟨hvk, hbw⟩, hin⟩, hcoll⟩, hreq⟩ := h
  refine ⟨?_, ?_, ?_, ?_, ?_, ?_⟩
  · intro o ho kh e
    subst e
    -- on a key owner `inputOk` (like `collateralOk` below) is by definition `(provided P t).contains kh`
    exact mem_provided P t kh (List.all_eq_true.mp hin _ ho)
  · intro o ho r e
    subst e
    have := (List.all_eq_true.mp hin) _ ho
    simp only [inputOk, Bool.or_eq_true] at this
    rcases this with h1 | h2
    · exact Or.inl (mem_provided P t r h1)
    · right
      obtain ⟨b, hb, hd⟩ := List.any_eq_true.mp h2
      simp only [bootDerives, Bool.and_eq_true, beq_iff_eq, and_assoc] at hd
      exact ⟨b, hb, hd⟩
  · intro o ho
    have := all_of_guarded hcoll o ho
    cases o with
    | key kh => exact ⟨kh, Or.inl rfl, mem_provided P t kh this⟩
    | byron r => exact ⟨r, Or.inr rfl, mem_provided P t r this⟩
    | script => cases this
    | missing => cases this
  · intro w hw
    simpa only [vkeySigOk, Bool.and_eq_true, beq_iff_eq, and_assoc] using
      List.all_eq_true.mp hvk w hw
  · intro b hb
    simpa only [bootSigOk, Bool.and_eq_true, beq_iff_eq, and_assoc] using
      List.all_eq_true.mp hbw b hb
  · intro r hr
    exact mem_provided P t r (all_of_guarded hreq r hr)

/-- **Symbolic reading** (ideal signature, injective key hash): acceptance means that the holder
    of the owner's secret key signed *this* transaction id — for every key-locked input and
    every collateral input the witness set contains `sign sk txId` where `sk` is the secret key
    whose public key hashes to the owner's key hash. -/
theorem owner_signed (SK : Type) (pkOf : SK → VKey) (sign : SK → Msg → Sig)
    (hbind : ∀ vk m σ, P.verify vk m σ = true → ∃ sk, vk = pkOf sk ∧ σ = sign sk m)
    (hinj : ∀ a b, P.h224 a = P.h224 b → a = b)
    (hpk : ∀ a b, pkOf a = pkOf b → a = b)
    (t : Tx VKey Sig Hash Msg CC Attr) (h : accepted P t = true) (owner : SK)
    (o : Owner Hash) (ho : o ∈ t.inputs ∨ o ∈ t.collateral)
    (hown : o = Owner.key (P.h224 (pkOf owner))) :
    ∃ w ∈ t.vkeys, w.vkey = pkOf owner ∧ w.sig = sign owner t.txId := by
  obtain ⟨h1, _, h3, h4, _, _⟩ := accepted_sound P t h
  subst hown
  have hw : ∃ w ∈ t.vkeys, P.h224 w.vkey = P.h224 (pkOf owner) := by
    rcases ho with ho | ho
    · exact h1 _ ho _ rfl
    · obtain ⟨kh, hk | hk, hw⟩ := h3 _ ho
      · cases hk
        exact hw
      · cases hk
  obtain ⟨w, hwm, hh⟩ := hw
  have hv := (h4 w hwm).2.2
  obtain ⟨sk, e1, e2⟩ := hbind _ _ _ hv
  have : w.vkey = pkOf owner := hinj _ _ hh
  have hsk : sk = owner := hpk _ _ (by rw [← e1, this])
  exact ⟨w, hwm, this, by rw [e2, hsk]⟩

/-- A single bad signature anywhere in the witness set rejects the transaction, related to an
    input or not. -/
theorem any_bad_signature_rejects (t : Tx VKey Sig Hash Msg CC Attr) (w : VkeyWit VKey Sig)
    (hw : w ∈ t.vkeys) (hbad : P.verify w.vkey t.txId w.sig = false) : accepted P t = false := by
  cases h : accepted P t with
  | false => rfl
  | true =>
    have := ((accepted_sound P t h).2.2.2.1 w hw).2.2
    rw [hbad] at this; cases this

/-- Regenerated tie: the three modelled rules are entries of the era rule lists as they stand
    in /repo now (collateral rule from Alonzo on). -/
theorem rules_listed :
    (∀ l ∈ [GV.Gen.RuleLists.shelley, GV.Gen.RuleLists.allegra, GV.Gen.RuleLists.mary,
            GV.Gen.RuleLists.alonzo, GV.Gen.RuleLists.babbage, GV.Gen.RuleLists.conway],
      "UtxoValidateSignatures" ∈ l ∧ "UtxoValidateRequiredVKeyWitnesses" ∈ l) ∧
    (∀ l ∈ [GV.Gen.RuleLists.alonzo, GV.Gen.RuleLists.babbage, GV.Gen.RuleLists.conway],
      "UtxoValidateCollateralVKeyWitnesses" ∈ l) ∧
    "conway.UtxoValidateSignatures" ∈ GV.Gen.RuleLists.dijkstra ∧
    "conway.UtxoValidateRequiredVKeyWitnesses" ∈ GV.Gen.RuleLists.dijkstra ∧
    "conway.UtxoValidateCollateralVKeyWitnesses" ∈ GV.Gen.RuleLists.dijkstra := by
  -- membership by finding the name; no two names are ever compared for inequality
  simp only [List.forall_mem_cons, List.not_mem_nil, false_imp_iff, implies_true, and_true]
  simp only [GV.Gen.RuleLists.shelley, GV.Gen.RuleLists.allegra, GV.Gen.RuleLists.mary,
    GV.Gen.RuleLists.alonzo, GV.Gen.RuleLists.babbage, GV.Gen.RuleLists.conway,
    GV.Gen.RuleLists.dijkstra, List.mem_cons, true_or, or_true, and_self]

/-- Regenerated source facts: the order of the three sub-checks of `UtxoValidateSignatures`,
    every byte-length comparison and the branch conditions of the input / collateral checks as
    they stand in ledger/common/{verify,witness,rules}.go on this run. -/
theorem source_facts :
    GV.Gen.WitnessFacts.signaturesCalls =
      ["ValidateVKeyWitnesses", "ValidateBootstrapWitnesses", "ValidateInputVKeyWitnesses"] ∧
    GV.Gen.WitnessFacts.verifyVKeySignature_lens =
      [("pubKey", "!=", "ed25519.PublicKeySize"), ("sig", "!=", "ed25519.SignatureSize")] ∧
    GV.Gen.WitnessFacts.bootstrap_lens =
      [("bw.PublicKey", "!=", "ed25519.PublicKeySize"), ("bw.Signature", "!=", "ed25519.SignatureSize")] ∧
    GV.Gen.WitnessFacts.byronRoot_lens = [("pubkey", "!=", "32"), ("chainCode", "!=", "32")] ∧
    GV.Gen.WitnessFacts.collateral_lens = [("collateral", "==", "0"), ("w.Vkey()", "==", "0")] ∧
    GV.Gen.WitnessFacts.required_lens =
      [("tx.RequiredSigners()", "+", "len(tx.Withdrawals())"), ("required", "==", "0"),
       ("w.Vkey()", "==", "0")] ∧
    GV.Gen.WitnessFacts.inputConds =
      ["w != nil", "w != nil", "err != nil", "utxo.Output == nil", "!ok",
       "addr.Type() == AddressTypeByron", "err != nil", "addrRoot == h", "!found"] ∧
    GV.Gen.WitnessFacts.collateralConds =
      ["len(collateral) == 0", "w == nil || len(w.Vkey()) == 0", "err != nil", "!ok", "!ok"] :=
  ⟨rfl, rfl, rfl, rfl, rfl, rfl, rfl, rfl⟩

/-! ### non-vacuity on the symbolic instance -/
open GV.Model.WitnessSym

def exTx : Tx VK SG H Nat Nat Nat :=
  { txId := 0
    inputs := [.key (H.kh (VK.k 1)), .byron (H.root (VK.k 2) 0 1), .script, .missing]
    collateral := [.key (H.kh (VK.k 1))]
    required := [H.kh (VK.k 3)]
    vkeys := [⟨VK.k 3, 32, SG.sg 3 0, 64⟩, ⟨VK.k 1, 32, SG.sg 1 0, 64⟩]
    boots := [⟨VK.k 2, 32, SG.sg 2 0, 64, 0, 32, 1⟩] }

example : accepted sym exTx = true := by decide
/-- valid-but-unrelated witness plus missing owner -/
example : accepted sym { exTx with vkeys := [⟨VK.k 3, 32, SG.sg 3 0, 64⟩, ⟨VK.k 9, 32, SG.sg 9 0, 64⟩] }
    = false := by decide
/-- `hbind` (here) and `hinj` (next) of `owner_signed` hold for the symbolic instance with
    `pkOf := VK.k`, `sign := SG.sg`; `hpk` (the constructor `VK.k` is injective) is not written out -/
example : ∀ vk m σ, sym.verify vk m σ = true →
    ∃ sk, vk = (fun i => VK.k i) sk ∧ σ = (fun i m => SG.sg i m) sk m := by
  intro vk m σ h
  cases vk <;> cases σ <;> simp [sym] at h ⊢
  exact ⟨h.1.symm, h.2.symm⟩
example : ∀ a b, sym.h224 a = sym.h224 b → a = b := by
  intro a b h; simpa [sym] using h

end GV.Props.C28
