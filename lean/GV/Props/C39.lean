import GV.Model.Kes
import GV.Model.KesSym
import GV.Proofs.Kes
import GV.Proofs.GoLite
import GV.Gen.KesConsts
import GV.Gen.KesFacts
/-!
C39 — KES signatures are forward-secure and period-bound.

For every seed and every period t below 2^depth, a signature made with a key
evolved t times verifies under the key's public key at period t only; it fails at
every other period, for any other message, and under any other public key.
Evolving a key never changes its public key, and an evolved key cannot sign for an
earlier period.

All theorems are about `GV.Model.Kes` (mirror of kes/kes.go, kes/sign.go), for an
arbitrary instance `P` of the primitives.  The laws of the primitives a theorem
needs are hypotheses of that theorem (`hc`, `Ideal P`, `TreeAddr …`); the `example`s
instantiate them with the free term algebra `sym`.
-/
namespace GV.Props.C39
open GV.Model.Kes GV.Proofs.Kes

variable {Seed Key Msg Sig : Type} (P : Prims Seed Key Msg Sig)

/-- `t` Updates of a fresh key succeed (for every t < 2^d) and give the key of period `t`,
    whose data is the closed form `stateAt`. -/
theorem evolve_ok (d : Nat) (s : Seed) (t : Nat) (hd : d < 64) (ht : t < 2 ^ d) :
    updateN P t (keyGen P d s) = .ok (keyAt P d s t) := by
  rw [keyGen_eq, updateN_keyAt P d s hd t 0 (by omega)]; simp

/-- Positive clause: the key evolved `t` times signs at period `t`, and the signature
    verifies under the KeyGen public key at period `t`.  Needs only completeness of Ed25519. -/
theorem verify_sign_evolved [DecidableEq Key]
    (hc : ∀ s m, P.verify (P.pkOf s) m (P.sign s m) = true)
    (d : Nat) (s : Seed) (t : Nat) (m : Msg) (hd : d < 64) (ht : t < 2 ^ d) :
    ∃ sk σ, updateN P t (keyGen P d s) = .ok sk ∧ sign P sk t m = .ok σ ∧
      verify P σ t (keyGen P d s).pk m = true := by
  refine ⟨keyAt P d s t, signInternal P (stateAt P d s t) t m, evolve_ok P d s t hd ht, ?_, ?_⟩
  · have h1 : ¬ (t ≥ 2 ^ d) := by omega
    simp [sign, keyAt, shl1_of_lt hd, h1]
  · rw [keyGen_eq]
    exact verify_signInternal P hc d s t m hd ht

/-- `Update` keeps the cached public key and the depth and advances the period by one.  (The key
    recomputed from the evolved data, `publicKeyInternal`, is `evolved_pk_recomputed`.) -/
theorem update_preserves_pk (sk sk' : SecretKey Seed Key) (h : update P sk = .ok sk') :
    sk'.pk = sk.pk ∧ sk'.depth = sk.depth ∧ sk'.period = sk.period + 1 := by
  revert h
  -- only the last rung of `update` returns a key
  fun_cases update P sk <;> intro h <;> cases h
  exact ⟨rfl, rfl, rfl⟩

theorem evolved_pk_recomputed (d : Nat) (s : Seed) (t : Nat) (hd : d < 64) (ht : t < 2 ^ d) :
    ∃ sk k, updateN P t (keyGen P d s) = .ok sk ∧ sk.data = some k ∧
      sk.pk = (keyGen P d s).pk ∧ publicKeyInternal P k = (keyGen P d s).pk := by
  refine ⟨keyAt P d s t, stateAt P d s t, evolve_ok P d s t hd ht, rfl, ?_, ?_⟩
  · rw [keyGen_eq]; rfl
  · rw [keyGen_eq, publicKeyInternal_stateAt]; rfl

/-- The key's lifetime is exactly 2^d periods: the Update after period 2^d − 1 fails. -/
theorem exhausted_after_last (d : Nat) (s : Seed) (hd : d < 64) :
    update P (keyAt P d s (2 ^ d - 1)) = .error .exhausted := by
  have := Nat.two_pow_pos d
  exact update_exhausted P d s _ hd (by omega)

/-- Period bound: a signature of depth ≥ 1 is rejected at every period ≥ 2^depth
    (as Go computes `1 << depth`), whatever key and message. -/
theorem period_bound [DecidableEq Key] (inner : KSig Key Sig) (l r : Key) (q : Nat) (K : Key)
    (m : Msg) (h : q ≥ shl1 (inner.depth + 1)) :
    verify P (.node inner l r) q K m = false := by
  simp [verify, h]

/-- An evolved key signs for its own period only: every other period — in particular
    every earlier one — is refused. -/
theorem no_sign_other_period (sk : SecretKey Seed Key) (p : Nat) (m : Msg) (h : p ≠ sk.period) :
    ∃ e, sign P sk p m = .error e := by
  fun_cases sign P sk p m
  -- `case4`, the rung that signs, is reached only with `p = sk.period`; the three before it are errors
  case case4 hp => exact absurd h hp
  all_goals exact ⟨_, rfl⟩

/-- After `Update` the predecessor (`Zeroize`d in place) cannot sign at all. -/
theorem predecessor_erased (sk : SecretKey Seed Key) (p : Nat) (m : Msg) :
    sign P (erase sk) p m = .error .erased := by
  simp [sign, erase]

/-- Symbolic binding (ideal primitives): the signature of period `t` for `m` verifies under
    key `K` at period `q` for message `m'` **iff** `K` is the key's public key, `q = t`, `m' = m`.
    So it fails at every other period, for any other message, under any other key. -/
theorem verify_iff [DecidableEq Key] (hI : Ideal P)
    (hc : ∀ s m, P.verify (P.pkOf s) m (P.sign s m) = true)
    (d : Nat) (s : Seed) (t q : Nat) (m m' : Msg) (K : Key)
    (hd : 1 ≤ d ∧ d < 64) (ht : t < 2 ^ d) :
    verify P (signInternal P (stateAt P d s t) t m) q K m' = true ↔
      (K = pkFromSeed P d s ∧ q = t ∧ m' = m) := by
  constructor
  · intro h
    have hq := verify_lt P h
    rw [depth_signInternal, depth_stateAt] at hq
    exact verify_binding P hI d s t q m m' K ht (hq hd) h
  · rintro ⟨rfl, rfl, rfl⟩
    exact verify_signInternal P hc d s _ _ hd.2 ht

/-- Symbolic unforgeability (ideal primitives): whatever signature of depth `d` the verifier
    accepts under the key's public key at period `q` for `m'` is byte-for-byte the signature the
    key evolved to period `q` makes for `m'` (so any flipped bit, swapped or substituted cell fails),
    and `q` is within the key's lifetime. -/
theorem unforgeable_symbolic [DecidableEq Key] (hI : Ideal P)
    (d : Nat) (s : Seed) (σ : KSig Key Sig) (q : Nat) (m' : Msg)
    (hσ : σ.depth = d) (hd : 1 ≤ d ∧ d < 64)
    (h : verify P σ q (pkFromSeed P d s) m' = true) :
    q < 2 ^ d ∧ σ = signInternal P (stateAt P d s q) q m' := by
  subst hσ
  exact ⟨verify_lt P h hd, verify_unique P hI σ s q m' h⟩

/-- Forward security of the stored material (symbolic: the seeds under the root form a tree,
    `TreeAddr`): from no seed cell held by the key evolved to period `t` can the Ed25519 seed of
    an earlier period `t' < t` be derived by seed expansion.  (`earlier_leaf_is_signing_seed`: that
    seed is the one a period-`t'` signature is made with.) -/
theorem no_backdating (addr : Seed → Option (List Bool)) (d : Nat) (s : Seed)
    (hT : TreeAddr P s addr) (hd : d < 64) (t t' : Nat) (ht : t < 2 ^ d) (hlt : t' < t) :
    ∃ sk k, updateN P t (keyGen P d s) = .ok sk ∧ sk.data = some k ∧
      ∀ c ∈ k.seeds, ¬ Derives P c (leafSeed P d s t') :=
  ⟨keyAt P d s t, stateAt P d s t, evolve_ok P d s t hd ht, rfl,
    no_earlier_leaf hT.step hT.zero d s t t' hT.root ht hlt⟩

theorem earlier_leaf_is_signing_seed (d : Nat) (s : Seed) (t' : Nat) (m : Msg) :
    leafSig (signInternal P (stateAt P d s t') t' m) = P.sign (leafSeed P d s t') m := by
  induction d generalizing s t' with
  | zero => rfl
  | succ d ih => rw [signInternal_stateAt_succ, leafSeed_succ]; exact ih _ _

/-! ### byte layout and the regenerated leaf arithmetic -/

theorem sig_cells_length (σ : KSig Key Sig) :
    (σ.cells (Seed := Seed)).length = 1 + 2 * σ.depth := by
  induction σ with
  | leaf _ => rfl
  | node i l r ih => simp [KSig.cells, KSig.depth, ih]; omega

theorem key_cells_length (k : SKey Seed Key) :
    (k.cells (Sig := Sig)).length = 1 + 3 * k.depth := by
  induction k with
  | leaf _ => rfl
  | node c rs l r ih => simp [SKey.cells, SKey.depth, ih]; omega

/-- signature bytes: one 64-byte cell and 32-byte cells -/
theorem signature_size_bytes (sk : SKey Seed Key) (t : Nat) (m : Msg) :
    64 + 32 * (((signInternal P sk t m).cells (Seed := Seed)).length - 1) = signatureSize sk.depth := by
  rw [sig_cells_length, depth_signInternal]; simp [signatureSize]; omega

open GV.Gen.GoLite in
/-- regenerated `kes.MaxPeriod` is the model's `uint64(1) << depth` -/
theorem gen_maxPeriod_eq (d : Nat) : kesMaxPeriod (d : Int) = (shl1 d : Int) := by
  unfold kesMaxPeriod shl1
  rw [GV.Proofs.GoLite.wrapU_of_lt (x := 1) (by decide) (by decide), Int.one_mul, Int.toNat_natCast,
    wrapU]
  split
  · rename_i h
    exact_mod_cast Nat.mod_eq_of_lt (Nat.pow_lt_pow_right (by decide) h)
  · exact_mod_cast Nat.mod_eq_zero_of_dvd (Nat.pow_dvd_pow 2 (by omega : 64 ≤ d))

open GV.Gen.GoLite in
/-- regenerated `kes.SignatureSize` is the model's size for every depth that can occur -/
theorem gen_signatureSize_eq (d : Nat) (h : d < 2 ^ 50) :
    kesSignatureSize (d : Int) = (signatureSize d : Int) := by
  have e1 : wrapU 64 64 = 64 := rfl
  have e2 : wrapU 64 ((d : Int) * 64) = d * 64 := GV.Proofs.GoLite.wrapU_of_lt (by omega) (by omega)
  have e3 : wrapU 64 (64 + (d : Int) * 64) = 64 + d * 64 :=
    GV.Proofs.GoLite.wrapU_of_lt (by omega) (by omega)
  have e4 : wrapU 64 9223372036854775807 = 9223372036854775807 := rfl
  have e5 : wrapS 64 (64 + (d : Int) * 64) = 64 + d * 64 :=
    GV.Proofs.GoLite.wrapS_of_lt (by decide) (by omega) (by omega)
  unfold kesSignatureSize signatureSize
  simp only [e1, e2, e3, e4, e5]
  -- neither the overflow test of the multiplication nor the range test of the sum fires
  rw [if_neg, if_neg]
  · push_cast; omega
  · simp only [Bool.or_eq_true, decide_eq_true_eq]; omega
  · simp only [Bool.and_eq_true, decide_eq_true_eq]
    exact fun hh => hh.2 (Int.mul_ediv_cancel_left _ (by omega))

/-- the regenerated constants agree with the model's layout at the Cardano depth -/
theorem consts_layout :
    GV.Gen.KesConsts.cardanoKesSignatureSize = signatureSize GV.Gen.KesConsts.cardanoKesDepth ∧
    GV.Gen.KesConsts.cardanoKesSecretKeySize = secretKeySize GV.Gen.KesConsts.cardanoKesDepth ∧
    GV.Gen.KesConsts.sigmaSize = 64 ∧ GV.Gen.KesConsts.publicKeySize = 32 ∧
    GV.Gen.KesConsts.kesSeedSize = 32 ∧ GV.Gen.KesConsts.kesEd25519KeySize = 32 := by
  decide

/-- Regenerated source facts: the branch conditions of Sign, signInternal, Update, updateInternal,
    Verify, NewSumKesFromBytes, keyGenInternal and secretKeySize as they stand in kes/*.go on
    this run; the model's `sign`, `signInternal`, `update`, `updateInternal`, `verify`,
    `newSumKesFromBytes` were written against exactly these comparisons (a `<` turned into `<=`
    or a dropped `-1` breaks this obligation without any test input). -/
theorem source_facts :
    GV.Gen.KesFacts.signConds =
      ["sk == nil", "sk.Data == nil", "period >= maxPeriod", "period != sk.Period", "err != nil"] ∧
    GV.Gen.KesFacts.signInternalConds = ["depth == 0", "period < halfPeriod"] ∧
    GV.Gen.KesFacts.updateConds =
      ["sk == nil", "sk.Data == nil", "newPeriod >= maxPeriod", "err != nil"] ∧
    GV.Gen.KesFacts.updateInternalConds =
      ["depth == 0", "period < halfPeriod-1", "period == halfPeriod-1", "err != nil"] ∧
    GV.Gen.KesFacts.verifyConds =
      ["period >= maxPeriod", "subtle.ConstantTimeCompare(pk2, pubKey) != 1", "period >= nextDepth"] ∧
    GV.Gen.KesFacts.parseConds =
      ["depth == 0", "kesSize > math.MaxInt", "len(fromByte) != int(kesSize)", "depth == 1", "err != nil"] ∧
    GV.Gen.KesFacts.keyGenInternalConds = ["depth == 0", "err != nil", "err != nil"] ∧
    GV.Gen.KesFacts.secretKeySizeConds = ["depth == 0", "depth > math.MaxInt/96"] :=
  ⟨rfl, rfl, rfl, rfl, rfl, rfl, rfl, rfl⟩

/-! ### non-vacuity: the hypotheses hold for the free term instance -/
open GV.Model.KesSym

example : ∀ s m, sym.verify (sym.pkOf s) m (sym.sign s m) = true := sym_complete
example : Ideal sym := sym_ideal
example : TreeAddr sym (Tm.root 0) (addr 0) := sym_treeAddr 0

example : verify sym (signInternal sym (stateAt sym 6 (Tm.root 0) 37) 37 (5 : Nat)) 37
    (pkFromSeed sym 6 (Tm.root 0)) 5 = true :=
  (verify_iff sym sym_ideal sym_complete 6 (Tm.root 0) 37 37 5 5 _ (by decide) (by decide)).2
    ⟨rfl, rfl, rfl⟩

example : verify sym (signInternal sym (stateAt sym 3 (Tm.root 0) 5) 5 (1 : Nat)) 4
    (pkFromSeed sym 3 (Tm.root 0)) 1 = false := by decide

/-- the seed cells of the depth-2 key at period 2, the first of the right half: the current leaf
    seed, the seed kept for period 3, and the wiped cell where the right half's seed stood — nothing
    of the left half, whose leaf seeds sign periods 0 and 1. -/
example : (stateAt sym 2 (Tm.root 0) 2).seeds = [Tm.exp (Tm.exp (Tm.root 0) true) false,
    Tm.exp (Tm.exp (Tm.root 0) true) true, Tm.zero] := by decide

end GV.Props.C39
