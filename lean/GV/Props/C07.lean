import GV.Model.Offsets
import GV.Model.OffsetsTruth
import GV.Model.OffsetsWit
import GV.Proofs.CborBytes
import GV.Proofs.Offsets
import GV.Proofs.OffsetsMap
import GV.Proofs.OffsetsEras
/-!
C07 — Transaction byte offsets point at the decoded components.

The extractor (`GV.Model.Offsets.extract`, mirroring the repaired
`ExtractTransactionOffsets` = `StreamingBlockDecoder.DecodeWithOffsets`) must
report, for every component, the byte range obtained by composing child spans
along the component's path, for every admissible header form of every
container on the path, and never a range outside the block.
-/
namespace GV.Props.C07
open GV.Cbor GV.Model.Offsets

/-- The translated Go function `cborArrayHeaderSize` (regenerated from the source on
    every run) is the minimal header length for every count below 2^32. -/
theorem headerSize_is_minimal (n : Nat) (h : n < 4294967296) : minHeaderSize n = minHeadLen n := by
  -- the Go comparisons on `int` are those on the count; then both sides are the same ladder,
  -- but for the last rung: from 65536 on Go always answers 5, `minHeadLen` only below 2^32 (`h`)
  simp only [minHeaderSize, GV.Gen.GoLite.cborArrayHeaderSize, minHeadLen, decide_eq_true_eq]
  grind

/-- The size assumed from the element count lies between 1 and 5 bytes. -/
theorem headerSize_le_actual (n : Nat) : minHeaderSize n ≤ 5 ∧ 1 ≤ minHeaderSize n := by
  simp only [minHeaderSize, GV.Gen.GoLite.cborArrayHeaderSize, decide_eq_true_eq]
  grind

/-- Explicit counterexample to "header size is a function of the count": the array
    header `98 05` (count 5 in the one-byte-argument form) is 2 bytes long, the size
    assumed from the count is 1. This is the defect that was repaired (`known/C07.json`). -/
theorem assumed_header_counterexample :
    readHead [0x98, 0x05] = .mk 4 24 5 2 ∧ minHeaderSize 5 = 1 ∧
    arrayHeaderLen [0x98, 0x05] 5 = 2 := by decide

/-- same for the 2/4/8-byte and the indefinite forms -/
theorem assumed_header_counterexamples :
    (readHead [0x99, 0, 5] = .mk 4 25 5 3 ∧ arrayHeaderLen [0x99, 0, 5] 5 = 3) ∧
    (readHead [0x9a, 0, 0, 0, 5] = .mk 4 26 5 5 ∧ arrayHeaderLen [0x9a, 0, 0, 0, 5] 5 = 5) ∧
    (readHead [0x9b, 0, 0, 0, 0, 0, 0, 0, 5] = .mk 4 27 5 9 ∧
      arrayHeaderLen [0x9b, 0, 0, 0, 0, 0, 0, 0, 5] 5 = 9) ∧
    (readHead [0x9f, 1, 0xff] = .mk 4 31 0 1 ∧ arrayHeaderLen [0x9f, 1, 0xff] 1 = 1) := by decide


theorem slice_child {b : Bytes} {s p : Nat × Nat} (hs : s.1 + s.2 ≤ b.length) (hp : p.1 + p.2 ≤ s.2) :
    s.1 + p.1 + p.2 ≤ b.length ∧ slice b (s.1 + p.1) p.2 = slice (slice b s.1 s.2) p.1 p.2 := by
  refine ⟨by omega, ?_⟩
  unfold slice
  rw [List.drop_take, List.take_take, List.drop_drop, Nat.min_eq_left (by omega)]

/-- **offsets_slice / offsets_in_bounds (Shelley..Conway layout).** For a block of fewer than
    2^31 bytes whose top level, bodies segment and witnesses segment are arrays — with ANY
    header form on each of the three (minimal, 1/2/4/8-byte count, indefinite) — the ranges
    reported for transaction bodies and witness sets are exactly the compositions of the
    child spans (top → segment → item), they lie inside the block, and they slice out
    exactly the item's bytes as the array decoder sees them. -/
theorem offsets_slice_shelley {b hdr bodiesRaw witsRaw : Bytes} {rest : List Bytes} {locs : List Loc}
    {ai arg hl ai1 arg1 hl1 ai2 arg2 hl2 : Nat}
    (hlen : b.length ≤ 2147483647)
    (harr : readHead b = .mk 4 ai arg hl)
    (htop : rawItems b = some (hdr :: bodiesRaw :: witsRaw :: rest))
    (hB : readHead bodiesRaw = .mk 4 ai1 arg1 hl1) (hW : readHead witsRaw = .mk 4 ai2 arg2 hl2)
    (h : shelleyOffsets b (hdr :: bodiesRaw :: witsRaw :: rest) = some locs) :
    ∃ cs0 i0 s0 s1 s2 rest' cs1 i1 cs2 i2,
      childSpans b = some (hl, cs0, i0) ∧ cs0 = s0 :: s1 :: s2 :: rest' ∧
      bodiesRaw = slice b s1.1 s1.2 ∧ witsRaw = slice b s2.1 s2.2 ∧
      childSpans bodiesRaw = some (hl1, cs1, i1) ∧ childSpans witsRaw = some (hl2, cs2, i2) ∧
      locs.map (·.body) = cs1.map (fun p => (s1.1 + p.1, p.2)) ∧
      locs.map (·.wit) = cs2.map (fun p => (s2.1 + p.1, p.2)) ∧
      (∀ p ∈ cs1, s1.1 + p.1 + p.2 ≤ b.length ∧
        slice b (s1.1 + p.1) p.2 = slice bodiesRaw p.1 p.2) ∧
      (∀ p ∈ cs2, s2.1 + p.1 + p.2 ≤ b.length ∧
        slice b (s2.1 + p.1) p.2 = slice witsRaw p.1 p.2) := by
  obtain ⟨cs0, i0, hc0, hitems, hwalk, hin0⟩ :=
    array_walk_exact 0 (hdr :: bodiesRaw :: witsRaw :: rest).length harr htop hlen
  match cs0, hitems with
  | s0 :: s1 :: s2 :: rest', hitems =>
  simp only [List.map_cons, List.cons.injEq] at hitems
  obtain ⟨rfl, rfl, rfl, _⟩ := hitems
  have hs1 : s1.1 + s1.2 ≤ b.length := hin0 s1 (by simp)
  have hs2 : s2.1 + s2.2 ≤ b.length := hin0 s2 (by simp)
  -- offsets of the segments from the walk over the top-level items
  simp only [walk, List.map_cons, List.cons.injEq, Prod.mk.injEq, Nat.zero_add] at hwalk
  obtain ⟨_, ⟨e1, _⟩, ⟨e2, _⟩, _⟩ := hwalk
  simp only [shelleyOffsets] at h
  cases hrb : rawItems (slice b s1.1 s1.2) with
  | none => simp [hrb] at h
  | some bodies =>
  cases hrw : rawItems (slice b s2.1 s2.2) with
  | none => simp [hrb, hrw] at h
  | some wits =>
  simp only [hrb, hrw] at h
  split at h
  · cases h
  next hne =>
    cases h
    have hlenEq : bodies.length = wits.length := by simpa using hne
    obtain ⟨cs1, i1, hc1, hit1, hwalk1, hin1⟩ :=
      array_walk_exact _ bodies.length hB hrb (slice_le hlen)
    obtain ⟨cs2, i2, hc2, hit2, hwalk2, hin2⟩ :=
      array_walk_exact _ wits.length hW hrw (slice_le hlen)
    -- the body and witness ranges `shelleyOffsets` assembles are the two walks
    have hz := fun o1 o2 o3 md => zipLocs_proj (walk o1 bodies) (walk o2 wits) (bodiesOutputs o3 bodies) md 0
      (by simpa [walk_length] using hlenEq) (by simp [walk_length, bodiesOutputs_length])
    rw [slice_length hs1] at hin1
    rw [slice_length hs2] at hin2
    refine ⟨s0 :: s1 :: s2 :: rest', i0, s0, s1, s2, rest', cs1, i1, cs2, i2, hc0, rfl, rfl, rfl,
      hc1, hc2, ?_, ?_, ?_, ?_⟩
    · rw [(hz ..).1, hwalk1, e1]
    · rw [(hz ..).2.1, hwalk2, e2]
    · exact fun p hp => slice_child hs1 (hin1 p hp)
    · exact fun p hp => slice_child hs2 (hin2 p hp)

/-- **Outputs (Shelley..Dijkstra bodies).** For a transaction body that is a map — definite
    header of any width or indefinite — whose first key `1` (all earlier keys unsigned
    integers) has as value an array with children `cs` (any header form): the reported output
    ranges are exactly those children, shifted to the body's position; they lie inside the value. -/
theorem outputs_exact {data : Bytes} {h : Nat} {kv : List (Nat × Nat)} {ind : Bool} {ai arg : Nat}
    {v : Nat × Nat} {ai' arg' hl : Nat} {cs : List (Nat × Nat)} {ind' : Bool} (base : Nat)
    (hc : childSpans data = some (h, kv, ind)) (hrh : readHead data = .mk 5 ai arg h)
    (hlen : data.length ≤ 2147483647)
    (hkey : firstKey data 1 kv = some v) (hv : v ∈ kv)
    (hrv : readHead (slice data v.1 v.2) = .mk 4 ai' arg' hl)
    (hcv : childSpans (slice data v.1 v.2) = some (hl, cs, ind')) :
    outputOffsets data base = cs.map (fun p => (base + v.1 + p.1, p.2)) ∧ InBounds v.2 cs := by
  rw [outputOffsets_eq base hc hrh hlen, hkey]
  exact outputsAt_exact base ((childSpans_children hc).wf v hv) hrv hcv hlen

/-- a body without key 1 (all keys unsigned integers ≠ 1) reports no outputs -/
theorem outputs_none {data : Bytes} {h : Nat} {kv : List (Nat × Nat)} {ind : Bool} {ai arg : Nat}
    (base : Nat) (hc : childSpans data = some (h, kv, ind)) (hrh : readHead data = .mk 5 ai arg h)
    (hlen : data.length ≤ 2147483647) (hkey : firstKey data 1 kv = none) :
    outputOffsets data base = [] := by
  rw [outputOffsets_eq base hc hrh hlen, hkey]

/-- **Metadata.** For a metadata segment that is a map (any header form) whose keys are
    unsigned integers, the range attributed to transaction `k` (a uint32 index) is the value
    under the last key equal to `k`, shifted to the segment's position — and nothing if there
    is no such key (in particular a key ≥ 2^32 is attributed to no transaction). -/
theorem metadata_exact {data : Bytes} {h : Nat} {kv : List (Nat × Nat)} {ind : Bool} {ai arg : Nat}
    (base k : Nat) (hk : k ≤ 4294967295)
    (hc : childSpans data = some (h, kv, ind)) (hrh : readHead data = .mk 5 ai arg h)
    (hlen : data.length ≤ 2147483647)
    (hkeys : ∀ j, 2 * j < kv.length →
      ∃ key kl, readUint (data.drop (kv.getD (2 * j) (0, 0)).1) = some (key, kl)) :
    lookupLast k (metadataOffsets data base) = lastKey data base k kv := by
  rw [metadataOffsets_eq base hc hrh hlen]
  have hev := childSpans_map_even hc hrh
  exact lookupLast_metaEntries data base k hk (kv.length / 2) kv (by omega) hkeys

/-- **Byron.** `extractByronTransactionOffsets` (with `extractByronOutputOffsets`) reports the
    path compositions for block → body → tx payload → pair → (tx body, witnesses): block
    `[header, body, extra]`, body `[tx_payload, ssc, dlg, upd]`, tx payload = array of pairs, any
    header form on each of these arrays and on every pair. (`byronOutputs_exact` does the same
    for the outputs of each tx body.) -/
theorem byron_exact {b : Bytes} {h0 h1 h2 : Nat} {s0 s1 s2 t0 t1 t2 t3 : Nat × Nat}
    {ps : List (Nat × Nat)} (hlen : b.length ≤ 2147483647)
    (hT : ArrAt b h0 [s0, s1, s2])
    (hB : ArrAt (slice b s1.1 s1.2) h1 [t0, t1, t2, t3])
    (hP : ArrAt (slice (slice b s1.1 s1.2) t0.1 t0.2) h2 ps)
    (hk : ∀ p ∈ ps, 2 ≤ (pairKids (slice (slice b s1.1 s1.2) t0.1 t0.2) p).length) :
    byronOffsets b ([s0, s1, s2].map fun p => slice b p.1 p.2) =
      some (ps.map (pairTruth (slice (slice b s1.1 s1.2) t0.1 t0.2) (s1.1 + t0.1))) := by
  obtain ⟨e0, e1, _⟩ := hT.children.contig
  have hs0 := hT.children.inBounds s0 (by simp)
  obtain ⟨f0, _⟩ := hB.children.contig
  simp only [List.map_cons, List.map_nil, byronOffsets, hB.raw, hP.raw]
  cases ps with
  | nil => rfl
  | cons p rest =>
    simp only [List.map_cons]
    rw [hT.hdr hlen, hB.hdr (slice_le hlen), hP.hdr (slice_le (slice_le hlen)),
      slice_length (by omega), show h0 + s0.2 + h1 + h2 = s1.1 + t0.1 + h2 by omega]
    exact byronPairs_exact _ (s1.1 + t0.1) (slice_le (slice_le hlen)) (p :: rest) h2
      hP.children.contig hP.children.inBounds hk

/-- **Dijkstra.** `extractDijkstraTransactionOffsets` reports the path compositions for
    block → block body → transactions → transaction → (body, witness set, aux): block
    `[header, block_body]`, block body `[invalid, transactions, leios, peras]`, each transaction
    `[body, witness set, aux/null]`, any header form (definite of any width or indefinite) on
    each of these arrays. -/
theorem dijkstra_exact {b : Bytes} {h0 h1 h2 : Nat} {c0 c1 u0 u1 u2 u3 : Nat × Nat}
    {ts : List (Nat × Nat)} (hlen : b.length ≤ 2147483647)
    (hT : ArrAt b h0 [c0, c1])
    (hB : ArrAt (slice b c1.1 c1.2) h1 [u0, u1, u2, u3])
    (hX : ArrAt (slice (slice b c1.1 c1.2) u1.1 u1.2) h2 ts)
    (hk : ∀ t ∈ ts, (pairKids (slice (slice b c1.1 c1.2) u1.1 u1.2) t).length = 3) :
    dijkstraOffsets b ([c0, c1].map fun p => slice b p.1 p.2) =
      some (ts.map (txTruth (slice (slice b c1.1 c1.2) u1.1 u1.2) (c1.1 + u1.1))) := by
  -- the cursor over the children of the block, then of the block body: where the decoder skips
  obtain ⟨_, _, _, _, hw⟩ := hT.info hlen
  obtain ⟨e0, s0, hw⟩ := hw.skip
  obtain ⟨e1, s1, _⟩ := hw.skip
  rw [← e1] at s1
  obtain ⟨_, _, _, _, hw⟩ := hB.info (slice_le hlen)
  obtain ⟨f0, t0, hw⟩ := hw.skip
  obtain ⟨f1, t1, _⟩ := hw.skip
  rw [← f1] at t1
  have hexpT := arrayHdrExpect_of_ArrAt hT hlen
  have hexpB := arrayHdrExpect_of_ArrAt hB (slice_le hlen)
  have hexpX := arrayHdrExpect_of_ArrAt hX (slice_le (slice_le hlen))
  simp only [List.length_cons, List.length_nil] at hexpT hexpB
  simp only [List.map_cons, List.map_nil, dijkstraOffsets, hexpT, hB.raw, skipItem_of_wf s0,
    skipItem_of_wf s1, ← e1, hexpB, skipItem_of_wf t0, skipItem_of_wf t1, ← f1, hX.raw]
  cases ts with
  | nil => rfl
  | cons t rest =>
    simp only [List.map_cons, List.length_cons, List.length_map] at hexpX ⊢
    simp only [hexpX]
    rw [show c1.1 + h1 + u0.2 = c1.1 + u1.1 by omega]
    exact dijkstraTxs_exact _ (c1.1 + u1.1) h2 (t :: rest) hX (slice_le (slice_le hlen))
      (t :: rest) h2 hX.children.contig (fun _ h => h) hk

/-! ### Script keys (recorded finding `script-key`)

The `Scripts` map is documented as "script hash → byte location". The extractor hashes
language ‖ <CBOR item bytes> for every script; `Script.Hash()` hashes language ‖ <CBOR> for a
native script but language ‖ <script bytes> (the content of the byte string) for Plutus
scripts. The repository's own test pins the extractor's behaviour, so this is recorded, not
repaired. -/

open GV.Model.OffsetsWit in
/-- Full demand: the bytes hashed into the key are the bytes the script's own hash covers. -/
def C07_scriptkey_full : Prop :=
  ∀ (ty : Nat) (item c : Bytes), scriptHashBytes ty item = some c → extractorKeyBytes ty item = c

open GV.Model.OffsetsWit in
/-- It holds for native scripts (language 0). -/
theorem C07_scriptkey_partial (item c : Bytes) (h : scriptHashBytes 0 item = some c) :
    extractorKeyBytes 0 item = c := by
  simpa [scriptHashBytes, extractorKeyBytes] using h

open GV.Model.OffsetsWit in
/-- It fails for Plutus scripts: the script `41 00` encoded `42 41 00` is keyed by the three
    CBOR bytes instead of its two script bytes. -/
theorem C07_scriptkey_witness : ¬ C07_scriptkey_full := by
  intro h
  have := h 1 [0x42, 0x41, 0x00] [0x41, 0x00] (by decide)
  exact absurd this (by decide)

/-- What `extract` answers on a concrete Byron and a concrete Dijkstra block with non-minimal
    and indefinite headers on the path (the `ArrAt` / `pairKids` hypotheses of `extract_byron` /
    `extract_dijkstra` are not exhibited for them). -/
example : extract [0x98, 0x03, 0x80, 0x9f, 0x98, 0x01, 0x9f, 0x83, 0x80, 0x98, 0x01, 0x82, 0x00, 0x00, 0xa0,
    0x80, 0xff, 0x00, 0x00, 0x00, 0xff, 0xa0] =
    some [{ body := (7, 8), wit := (15, 1), outs := [(11, 3)] }] := by decide

example : extract [0x9f, 0x80, 0x98, 0x04, 0xf6, 0x99, 0x00, 0x01, 0x9f, 0xbf, 0x01, 0x98, 0x01, 0x82, 0x00, 0x00, 0xff,
    0xa0, 0xa1, 0x00, 0x00, 0xff, 0xf6, 0xf6, 0xff] =
    some [{ body := (9, 8), wit := (17, 1), aux := (18, 3), outs := [(13, 3)] }] := by decide

/-- Non-vacuity: a block `[hdr, bodies, witnesses, metadata]` whose top-level header is the
    non-minimal `98 04`, whose bodies array is indefinite, whose witnesses array has a
    2-byte count and whose outputs array is `98 01`: the hypotheses of
    `offsets_slice_shelley` hold and the extractor reports the path-composed spans. -/
def exampleBlock : Bytes :=
  [0x98, 0x04, 0x80, 0x9f, 0xa1, 0x01, 0x98, 0x01, 0x82, 0x00, 0x00, 0xff,
   0x99, 0x00, 0x01, 0xa0, 0xa1, 0x00, 0x61, 0x41]

example : extract exampleBlock =
    some [{ body := (4, 7), wit := (15, 1), aux := (18, 2), outs := [(8, 3)] }] := by decide

example : GV.Model.OffsetsTruth.truth "shelley" exampleBlock = extract exampleBlock := by decide

example : readHead exampleBlock = .mk 4 24 4 2 ∧
    rawItems exampleBlock = some [[0x80], [0x9f, 0xa1, 0x01, 0x98, 0x01, 0x82, 0x00, 0x00, 0xff],
      [0x99, 0x00, 0x01, 0xa0], [0xa1, 0x00, 0x61, 0x41]] := by decide

end GV.Props.C07

/-! ### the dispatch

The shape tests of `ExtractTransactionOffsets` (isDijkstraBlock / short block / isByronBlock /
Shelley+) send each layout to its own walker, so the statements above are statements about
`extract` itself. -/

namespace GV.Model.Offsets
open GV.Cbor

/-- A block with at least four top-level elements (Shelley..Conway) takes the Shelley+ path. -/
theorem extract_shelley {b : Bytes} {a0 a1 a2 a3 : Bytes} {rest : List Bytes}
    (htop : rawItems b = some (a0 :: a1 :: a2 :: a3 :: rest)) :
    extract b = shelleyOffsets b (a0 :: a1 :: a2 :: a3 :: rest) := by
  unfold extract
  rw [htop]
  simp [isDijkstra, isByron]
  omega

/-- **Byron blocks: `extract` = path composition.** -/
theorem extract_byron {b : Bytes} {h0 h1 h2 : Nat} {s0 s1 s2 t0 t1 t2 t3 : Nat × Nat}
    {ps : List (Nat × Nat)} (hlen : b.length ≤ 2147483647)
    (hT : ArrAt b h0 [s0, s1, s2])
    (hB : ArrAt (slice b s1.1 s1.2) h1 [t0, t1, t2, t3])
    (hP : ArrAt (slice (slice b s1.1 s1.2) t0.1 t0.2) h2 ps)
    (hk : ∀ p ∈ ps, (pairKids (slice (slice b s1.1 s1.2) t0.1 t0.2) p).length = 2) :
    extract b = some (ps.map (pairTruth (slice (slice b s1.1 s1.2) t0.1 t0.2) (s1.1 + t0.1))) := by
  have hex := GV.Props.C07.byron_exact hlen hT hB hP (fun p hp => by rw [hk p hp]; omega)
  unfold extract
  rw [hT.raw]
  have hnd : isDijkstra ([s0, s1, s2].map fun p => slice b p.1 p.2) = false := by
    simp [isDijkstra]
  have hby : isByron ([s0, s1, s2].map fun p => slice b p.1 p.2) = true := by
    simp only [List.map_cons, List.map_nil, isByron, hB.raw, hP.raw]
    cases ps with
    | nil => rfl
    | cons p rest =>
      match hkids : pairKids _ p, hk p (by simp) with
      | [_, _], _ =>
        obtain ⟨_, harr⟩ := pairKids_arr hkids
        simp only [List.map_cons, harr.raw]
        rfl
  simp only [hnd, hby, Bool.false_eq_true, if_false, if_true]
  simp only [List.map_cons, List.map_nil, List.length_cons, List.length_nil] at hex ⊢
  simpa using hex

/-- **Dijkstra blocks: `extract` = path composition.** -/
theorem extract_dijkstra {b : Bytes} {h0 h1 h2 : Nat} {c0 c1 u0 u1 u2 u3 : Nat × Nat}
    {ts : List (Nat × Nat)} (hlen : b.length ≤ 2147483647)
    (hT : ArrAt b h0 [c0, c1])
    (hB : ArrAt (slice b c1.1 c1.2) h1 [u0, u1, u2, u3])
    (hX : ArrAt (slice (slice b c1.1 c1.2) u1.1 u1.2) h2 ts)
    (hk : ∀ t ∈ ts, (pairKids (slice (slice b c1.1 c1.2) u1.1 u1.2) t).length = 3) :
    extract b = some (ts.map (txTruth (slice (slice b c1.1 c1.2) u1.1 u1.2) (c1.1 + u1.1))) := by
  have hex := GV.Props.C07.dijkstra_exact hlen hT hB hX hk
  unfold extract
  rw [hT.raw]
  have hd : isDijkstra ([c0, c1].map fun p => slice b p.1 p.2) = true := by
    simp only [List.map_cons, List.map_nil, isDijkstra, hB.raw, hX.raw]
    cases ts with
    | nil => rfl
    | cons t rest =>
      match hkids : pairKids _ t, hk t (by simp) with
      | [_, _, _], _ =>
        obtain ⟨_, harr⟩ := pairKids_arr hkids
        simp only [List.map_cons, harr.raw]
        rfl
  simp only [hd, if_true]
  exact hex

end GV.Model.Offsets
