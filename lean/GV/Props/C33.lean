import GV.Model.Withdrawals
import GV.Gen.G1Rules
import GV.Gen.RuleLists
/-!
C33 — Reward withdrawals are gated on DRep delegation only at PV10 and PV11.

For a phase-1-valid Conway-or-later transaction, a non-zero withdrawal from a
registered key-hash reward account is rejected for lack of a DRep delegation
exactly when the protocol major version is 10 or 11 and the account has no
DRep delegation. At PV10/PV11 a ledger state that cannot answer the delegation
query yields the 'state unavailable' error, and versions up to 9 and from 12 on
impose no delegation requirement.

The theorems do not single out key-hash accounts: the Go rule asks `StakeCredential()`, which
answers for key-hash and script-hash accounts alike, and in the model `Wd.keyHash` enters no
definition, so everything below holds of both kinds. The only validity that enters is `o.valid` =
`tx.IsValid()`, the phase-2 flag: the rule returns at once when it is false (`invalid_skips`).
-/
namespace GV.Props.C33
open GV.Model.Withdrawals

/-- (R) The version gate translated from the Go source on this run is the model's
    gate, and it is open exactly at 10 and 11 — for every version number. -/
theorem gate_is_10_11 (pv : Nat) :
    GV.Gen.G1Rules.withdrawalsGateSkipped pv = gateSkipped pv ∧
    (gateSkipped pv = false ↔ pv = 10 ∨ pv = 11) := by
  simp only [GV.Gen.G1Rules.withdrawalsGateSkipped, gateSkipped,
    GV.Gen.G1Consts.protocolVersionPlomin, GV.Gen.G1Consts.protocolVersionDijkstra]
  refine ⟨rfl, ?_⟩
  by_cases h1 : pv < 10 <;> by_cases h2 : pv ≥ 12 <;> simp [h1, h2] <;> omega

/-- The loop in a form free of the iteration order. A non-zero withdrawal stops it: any one when
    the state lacks the capability (`unavail`), one without a delegation when it has it (`notDeleg`). -/
theorem gateLoop_eq (c : Bool) (l : List Wd)
    (hne : c = true → ∀ w ∈ l, w.amount ≠ 0 → w.lookup ≠ .error) :
    gateLoop c l =
      if ∃ w ∈ l, w.amount ≠ 0 ∧ (c = true → w.lookup = .noDelegation) then
        (if c then .notDeleg else .unavail)
      else .ok := by
  induction l with
  | nil => simp [gateLoop]
  | cons w rest ih =>
    have ih' := ih fun hc x hx => hne hc x (List.mem_cons_of_mem _ hx)
    unfold gateLoop
    by_cases h0 : w.amount = 0
    · simp [h0, ih']
    · cases c with
      | false => simp [h0]
      | true =>
        cases hl : w.lookup with
        | error => exact absurd hl (hne rfl w List.mem_cons_self h0)
        | noDelegation => simp [h0, hl]
        | delegated => simp [h0, hl, ih']

theorem gateLoop_capable (l : List Wd) (hne : ∀ w ∈ l, w.amount ≠ 0 → w.lookup ≠ .error) :
    gateLoop true l = if ∃ w ∈ l, w.amount ≠ 0 ∧ w.lookup = .noDelegation then .notDeleg else .ok := by
  simpa using gateLoop_eq true l fun _ => hne

theorem gateLoop_incapable (l : List Wd) :
    gateLoop false l = if ∃ w ∈ l, w.amount ≠ 0 then .unavail else .ok := by
  simpa using gateLoop_eq false l nofun

/-- the emptiness test of the rule is the loop's own base case -/
theorem rule_eq (o : Op) :
    rule o = if !o.valid then .ok else if o.wds.any (fun w => !w.registered) then .unreg
      else if gateSkipped o.pv then .ok else gateLoop o.capable o.wds := by
  unfold rule
  cases o.wds <;> simp [gateLoop]

theorem rule_of_registered (o : Op) (hv : o.valid = true) (hr : ∀ w ∈ o.wds, w.registered = true) :
    rule o = if gateSkipped o.pv then .ok else gateLoop o.capable o.wds := by
  have hreg : o.wds.any (fun w => !w.registered) = false :=
    List.any_eq_false.mpr fun w hw => by simp [hr w hw]
  simp [rule_eq, hv, hreg]

/-- Main clause. Phase-2-valid transaction, every withdrawal from a registered account,
    a ledger state that answers: rejection for lack of delegation happens exactly when
    the version is 10 or 11 and some non-zero withdrawal has no delegation; otherwise
    the rule passes. All versions, all withdrawal lists, every iteration order. -/
theorem gate_iff (o : Op) (hv : o.valid = true) (hr : ∀ w ∈ o.wds, w.registered = true)
    (hc : o.capable = true) (hne : ∀ w ∈ o.wds, w.amount ≠ 0 → w.lookup ≠ .error) :
    (rule o = .notDeleg ↔
      (o.pv = 10 ∨ o.pv = 11) ∧ ∃ w ∈ o.wds, w.amount ≠ 0 ∧ w.lookup = .noDelegation) ∧
    (rule o = .notDeleg ∨ rule o = .ok) := by
  rw [rule_of_registered o hv hr, hc, gateLoop_capable o.wds hne, ← (gate_is_10_11 o.pv).2]
  cases gateSkipped o.pv with
  | true => simp
  | false =>
    by_cases he : ∃ w ∈ o.wds, w.amount ≠ 0 ∧ w.lookup = .noDelegation
    · simp [he]
    · simp [he]

/-- At PV10/PV11 a ledger state that cannot answer yields 'state unavailable' as soon
    as one non-zero withdrawal is present. -/
theorem unanswerable_state_error (o : Op) (hv : o.valid = true)
    (hr : ∀ w ∈ o.wds, w.registered = true) (hpv : o.pv = 10 ∨ o.pv = 11)
    (hc : o.capable = false) (hnz : ∃ w ∈ o.wds, w.amount ≠ 0) :
    rule o = .unavail := by
  have hs : gateSkipped o.pv = false := ((gate_is_10_11 o.pv).2).2 hpv
  rw [rule_of_registered o hv hr, hs, hc, gateLoop_incapable, if_pos hnz]
  rfl

/-- Versions up to 9 and from 12 on impose no delegation requirement: the rule is the
    registration check alone, whatever the delegations and the state's capability. -/
theorem no_gate_outside (o : Op) (hpv : o.pv ≤ 9 ∨ o.pv ≥ 12) :
    rule o = (if o.valid && o.wds.any (fun w => !w.registered) then .unreg else .ok) := by
  have hs : gateSkipped o.pv = true := by
    rw [← Bool.not_eq_false, (gate_is_10_11 o.pv).2]
    omega
  rw [rule_eq, hs]
  cases o.valid <;> cases o.wds.any (fun w => !w.registered) <;> rfl

/-- Zero-amount withdrawals never need a delegation, in any version. -/
theorem zero_amounts_free (o : Op) (hz : ∀ w ∈ o.wds, w.amount = 0) :
    rule o = .ok ∨ rule o = .unreg := by
  have hl : gateLoop o.capable o.wds = .ok := by
    rw [gateLoop_eq o.capable o.wds fun _ w hw h0 => absurd (hz w hw) h0, if_neg]
    exact fun ⟨w, hw, h0, _⟩ => h0 (hz w hw)
  rw [rule_eq, hl]
  cases o.valid <;> cases o.wds.any (fun w => !w.registered) <;> cases gateSkipped o.pv <;> simp

/-- A phase-2-invalid transaction is not subject to the rule. -/
theorem invalid_skips (o : Op) (hv : o.valid = false) : rule o = .ok := by
  unfold rule; simp [hv]

/-- Go's map iteration order does not matter (when lookups do not fail): any
    permutation of the withdrawals gives the same verdict. -/
theorem order_independent (o : Op) (l' : List Wd) (hp : o.wds.Perm l')
    (hne : ∀ w ∈ o.wds, w.amount ≠ 0 → w.lookup ≠ .error) :
    rule { o with wds := l' } = rule o := by
  rw [rule_eq, rule_eq]
  simp only
  rw [← hp.any_eq, gateLoop_eq o.capable l' fun _ w hw => hne w (hp.mem_iff.mpr hw),
    gateLoop_eq o.capable o.wds fun _ => hne]
  simp only [hp.mem_iff]

/-- (R) constants and rule lists as they stand in the repository now. -/
theorem consts_and_rules :
    GV.Gen.G1Consts.protocolVersionConway = 9 ∧ GV.Gen.G1Consts.protocolVersionPlomin = 10 ∧
    GV.Gen.G1Consts.protocolVersionVanRossem = 11 ∧ GV.Gen.G1Consts.protocolVersionDijkstra = 12 ∧
    "UtxoValidateWithdrawals" ∈ GV.Gen.RuleLists.conway ∧
    "conway.UtxoValidateWithdrawals" ∈ GV.Gen.RuleLists.dijkstra ∧
    GV.Gen.G1Rules.withdrawalsDelegation = [("conway", "self")] := by
  refine ⟨rfl, rfl, rfl, rfl, ?_, ?_, rfl⟩
  · simp only [GV.Gen.RuleLists.conway, List.mem_cons, true_or, or_true]
  · simp only [GV.Gen.RuleLists.dijkstra, List.mem_cons, true_or, or_true]

/-- Non-vacuity. -/
example : rule { pv := 10, valid := true, capable := true,
                 wds := [⟨true, true, 0, .noDelegation⟩, ⟨true, true, 5, .noDelegation⟩] } = .notDeleg := by decide
example : rule { pv := 11, valid := true, capable := false, wds := [⟨true, true, 5, .delegated⟩] } = .unavail := by decide
example : rule { pv := 12, valid := true, capable := false, wds := [⟨true, true, 5, .noDelegation⟩] } = .ok := by decide
example : rule { pv := 10, valid := true, capable := true, wds := [⟨true, true, 5, .delegated⟩] } = .ok := by decide

end GV.Props.C33
