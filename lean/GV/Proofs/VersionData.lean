import GV.Model.VersionData
/-!
  The version-data codec of GV.Model.VersionData round-trips (`decode_encode`). `encode` writes
  one of three wire shapes: a bare uint, `[uint, bool]` (head byte 130) or
  `[uint, bool, uint, bool]` (head byte 132); all rest on the round trip of one head,
  `readArg_encodeHead`.
-/
namespace GV.Proofs.VersionData
open GV.Model.VersionData

theorem digit (n k : Nat) : n / (k * 256) * 256 + n / k % 256 = n / k := by
  rw [← Nat.div_div_eq_div_mul]; exact Nat.div_add_mod' (n / k) 256

theorem readArg_encodeHead (mt n : Nat) :
    ∃ b t, encodeHead mt n = b :: t ∧ b / 32 = mt ∧
      (n < 18446744073709551616 → ∀ r, readArg (b % 32) (t ++ r) = some (n, r)) := by
  -- the five widths: `n` in the initial byte, then in 1, 2, 4 and 8 bytes after it; the initial byte is
  -- `mt * 32 + k` with `k` = `n`, 24, 25, 26, 27
  have hd (k : Nat) (hk : k < 32) : (mt * 32 + k) / 32 = mt := by omega
  fun_cases encodeHead mt n
  all_goals refine ⟨_, _, rfl, hd _ (by omega), fun h r => ?_⟩
  all_goals rw [Nat.mul_add_mod_self_right]
  case case1 h1 => rw [Nat.mod_eq_of_lt (by omega)]; simp [readArg, h1]
  case case2 => rfl
  case case3 => simp [readArg, Nat.div_add_mod']
  case case4 =>
    simp only [readArg, List.cons_append, Nat.reduceMod, Nat.reduceLT, ↓reduceIte]
    rw [digit n 65536, digit n 256, Nat.div_add_mod']; rfl
  case case5 =>
    simp only [readArg, List.cons_append, Nat.reduceMod, Nat.reduceLT, ↓reduceIte]
    rw [Nat.mod_eq_of_lt (Nat.div_lt_of_lt_mul h : n / 72057594037927936 < 256),
      digit n 281474976710656, digit n 1099511627776, digit n 4294967296, digit n 16777216, digit n 65536,
      digit n 256, Nat.div_add_mod']; rfl

theorem encodeHead_length_le (mt n : Nat) : (encodeHead mt n).length ≤ 9 := by
  fun_cases encodeHead mt n <;> exact Nat.le_of_ble_eq_true rfl

theorem readScalar_encodeUint (n : Nat) (h : n < 18446744073709551616) (r : Bytes) :
    readScalar (encodeUint n ++ r) = some (Item.uint n, r) := by
  obtain ⟨b, t, he, hb, hr⟩ := readArg_encodeHead 0 n
  rw [encodeUint, he]
  simp only [List.cons_append, readScalar, hb, hr h, ↓reduceIte, Option.map]

theorem readScalar_encodeBool (b : Bool) (r : Bytes) :
    readScalar (encodeBool b ++ r) = some (Item.bool b, r) := by
  cases b <;> simp [encodeBool, readScalar]

theorem encodeUint_length_pos (n : Nat) : 1 ≤ (encodeUint n).length := by
  obtain ⟨b, t, he, _⟩ := readArg_encodeHead 0 n
  simp [encodeUint, he]

theorem encodeUint_head (n : Nat) : ∃ b t, encodeUint n = b :: t ∧ b / 32 = 0 := by
  obtain ⟨b, t, he, hb, _⟩ := readArg_encodeHead 0 n
  exact ⟨b, t, he, hb⟩

theorem readTagged_encodeUint (f n : Nat) (h : n < 18446744073709551616) (r : Bytes) :
    readTagged (f + 1) (encodeUint n ++ r) = some (Item.uint n, r) := by
  obtain ⟨b, t, he, hb⟩ := encodeUint_head n
  -- the head byte is no tag, so `readTagged` hands over to `readScalar`
  rw [← readScalar_encodeUint n h r, he, List.cons_append, readTagged, if_neg (by omega)]

theorem readTagged_encodeBool (f : Nat) (b : Bool) (r : Bytes) :
    readTagged (f + 1) (encodeBool b ++ r) = some (Item.bool b, r) := by
  rw [← readScalar_encodeBool b r]
  cases b <;> rfl

theorem parseTop_uint (n : Nat) (h : n < 18446744073709551616) (r : Bytes) :
    parseTop (encodeUint n ++ r) = Top.scalar (Item.uint n) := by
  unfold parseTop
  rw [readTagged_encodeUint _ n h r]

theorem readItems2 (m : Nat) (hm : m < 18446744073709551616) (b : Bool) (r : Bytes) :
    readItems 2 (encodeUint m ++ (encodeBool b ++ r)) = some ([Item.uint m, Item.bool b], r) := by
  simp [readItems, readTagged_encodeUint _ m hm, readTagged_encodeBool]

theorem readItems4 (m p : Nat) (hm : m < 18446744073709551616) (hp : p < 18446744073709551616)
    (b c : Bool) (r : Bytes) :
    readItems 4 (encodeUint m ++ (encodeBool b ++ (encodeUint p ++ (encodeBool c ++ r)))) =
      some ([Item.uint m, Item.bool b, Item.uint p, Item.bool c], r) := by
  simp [readItems, readTagged_encodeUint _ m hm, readTagged_encodeUint _ p hp, readTagged_encodeBool]

theorem parseTop_array {b : Nat} {r r' : Bytes} {xs : List Item} (hb : b / 32 = 4) (hn : b % 32 < 24)
    (hl : b % 32 ≤ r.length) (h : readItems (b % 32) r = some (xs, r')) :
    parseTop (b :: r) = Top.arr xs := by
  have h6 : ¬ (b / 32 = 6) := by omega
  -- an array head is no tag and no scalar, so `parseTop` goes on to `stripTags`, which finds nothing to strip
  have hrt : readTagged ((b :: r).length + 1) (b :: r) = none := by
    rw [readTagged, if_neg h6]
    unfold readScalar
    simp [hb]
  rw [parseTop, hrt, stripTags, if_neg h6]
  have h31 : ¬ b % 32 = 31 := by omega
  simp only [parseArr, hb, h31, readArg, hn, h, Nat.not_lt.mpr hl, ↓reduceIte]

/-- **Round trip**: every well-formed version-data value decodes, with the decoder of its own
    type, from its own encoding (followed by anything) to itself. -/
theorem decode_encode (d : VData) (hw : d.wf) (r : Bytes) :
    decode d.kind (encode d ++ r) = some d := by
  obtain ⟨k, m, dm, ps, q⟩ := d
  obtain ⟨hm, hp, hk⟩ := hw
  simp only at hm hp
  have hm64 : m < 18446744073709551616 := by omega
  have hlm := encodeUint_length_pos m
  cases k with
  | ntc9 =>
    simp only at hk
    obtain ⟨h1, h2, h3⟩ := hk
    subst h1; subst h2; subst h3
    simp only [decode, encode, parseTop_uint m hm64, decodeScalar, asU32]
    simp [hm]
  | ntc15 | ntn7 =>
    simp only at hk
    obtain ⟨h1, h2⟩ := hk
    subst h1; subst h2
    simp only [decode, encode, List.cons_append, List.append_assoc]
    -- head byte 130: major type 4, count 2, and what follows is at least 2 bytes long (`hlm`)
    rw [parseTop_array (b := 130) rfl (by decide) (by simp [encodeBool]; omega) (readItems2 m hm64 _ r)]
    simp [decodeArr, asU32, asBool, hm]
  | ntn11 | ntn13 =>
    have hlp := encodeUint_length_pos ps
    simp only [decode, encode, List.cons_append, List.append_assoc]
    rw [parseTop_array (b := 132) rfl (by decide) (by simp [encodeBool]; omega) (readItems4 m ps hm64 hp _ _ r)]
    simp [decodeArr, asU32, asBool, asU64, hm, hp]

end GV.Proofs.VersionData
