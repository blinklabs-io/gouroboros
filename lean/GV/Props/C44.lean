import GV.Proofs.PipelineHist
import GV.Proofs.PipelineLive
/-!
C44 — A failed submission does not stall later blocks.

A submission that returns an error, for example because the caller's context expired
while the pipeline was full, does not prevent blocks submitted successfully afterwards
from being applied.

Model: `GV.Model.Pipeline` (step system of Submit, decode / validate workers, apply runner).
Schedules contain `fail` events (a Submit that returned an error) at arbitrary points.
The theorems are about the repaired `Submit` (`legacy = false`, repo commit "fix: a failed
Submit hands its sequence number back …"); `legacy_submit_stalls` is the behaviour of the
code before the repair.
-/
namespace GV.Props.C44
open GV.Model.Pipeline GV.Proofs.Pipeline

/-- A submission that fails while it holds the turn (back-pressure, context expired) only gives
    the turn — and with it the sequence number it had allocated — back: `counter`, the accepted
    blocks and everything in the pipeline are unchanged. -/
theorem failed_submission_changes_nothing (c : Cfg) (h : c.legacy = false) (s s' : St)
    (hs : step c s .fail = some s') : s' = { s with turn := none } := by
  cases Step.of_step hs with
  | fail => rfl
  | failLegacy _ hl => cases h.symm.trans hl

/-- Concurrent submitters take turns. A caller that gives up while WAITING for its turn changes
    nothing at all — in particular not the sequence counter (it has not allocated anything), not
    the turn, not `PendingCount()`. -/
theorem waiter_giving_up_changes_nothing (c : Cfg) (s s' : St) (hs : step c s .giveup = some s') :
    s' = { s with waiters := s.waiters - 1 } ∧ seqCounter s' = seqCounter s ∧
    pendingCount s' = pendingCount s ∧ s'.turn = s.turn := by
  cases Step.of_step hs with
  | giveup => exact ⟨rfl, rfl, rfl, rfl⟩

/-- At most one submitter holds the turn, and the number it has allocated is the next one:
    `sequenceCounter` is exactly the number of accepted blocks plus the holder's. -/
theorem turn_holds_next_number (c : Cfg) (hc : c.legacy = false) (s : St) (hr : Reachable c s) :
    (∀ x, s.turn = some x → x.seq = s.counter) ∧
    seqCounter s = s.subs.length + (if s.turn.isSome then 1 else 0) := by
  refine ⟨?_, by simp [seqCounter, (hist_reachable c s hr).subs_length]⟩
  refine reachable_induction (c := c) (P := fun s => ∀ x, s.turn = some x → x.seq = s.counter)
    nofun (fun ih hs => ?_) s hr
  cases hs with
  | acq _ _ _ _ hx => exact fun y hy => Option.some.inj hy ▸ hx
  | sub | fail | failLegacy => exact nofun
  | _ => exact ih

/-- A Submit before Start() (`ErrPipelineNotStarted`) burns no sequence number — not even in
    the code before the repair: the started check precedes the allocation — and nothing can be
    accepted before Start(). -/
theorem submit_before_start_changes_nothing (c : Cfg) (s : St) (h : s.started = false) :
    ∀ x, step c s (.acq x) = none ∧ step c s (.sub x) = none := by
  intro x
  constructor <;> simp [step, h]

/-- Over all schedules (any number of workers, any interleaving, failed
    submissions anywhere): as long as Stop has not begun, every allocated sequence number
    has either been dequeued by the apply stage or belongs to a block that is still on its
    way there (in a channel, in a worker, in the runner's hand, or in the pending map). -/
theorem no_seq_gap (c : Cfg) (hc : c.legacy = false) (s : St) (hr : Reachable c s)
    (hcn : s.cancelled = false) :
    ∀ i, i < s.counter → i < s.nextSeq ∨ ∃ x ∈ upstream s, x.seq = i :=
  fun i hi => (Nat.lt_or_ge i s.nextSeq).imp_right fun h => (noGap_hist_reachable c hc s hr).1.present hcn i h hi

/-- The apply stage never waits for a number that nobody holds: when no pipeline goroutine
    can take a step, every allocated sequence number has been dequeued. -/
theorem quiescent_all_dequeued (c : Cfg) (hc : c.legacy = false) (s : St) (hr : Reachable c s)
    (hcn : s.cancelled = false) (hq : Quiescent s) : s.nextSeq = s.counter :=
  quiescent_next s (noGap_hist_reachable c hc s hr).1 hcn hq

/-- The property: whatever submissions failed along the way, once the pipeline has come to
    rest every successfully submitted good block has been applied, exactly once and in
    submission order, and every accepted block is on the results stream. -/
theorem accepted_blocks_all_applied (c : Cfg) (hc : c.legacy = false) (s : St) (hr : Reachable c s)
    (hcn : s.cancelled = false) (hq : Quiescent s) :
    s.applied = okSeqs c s.subs ∧ s.results = List.range s.counter :=
  (noGap_hist_reachable c hc s hr).elim fun hg hh => (at_rest hg hh hcn hq).imp_right And.left

/-- Liveness without a fairness assumption. From any reachable state (failed submissions
    included in its history) let only the pipeline goroutines run, in any order: such a run has
    at most `measure s` steps, and wherever it stands, either some goroutine can still take a
    step or every block accepted so far has been applied. So the accepted blocks ARE applied
    unless the scheduler stops scheduling the pipeline: no failed submission can stall them. -/
theorem accepted_blocks_get_applied (c : Cfg) (hc : c.legacy = false) (s : St) (hr : Reachable c s)
    (hcn : s.cancelled = false) (es : List Ev) (s' : St)
    (hint : ∀ e ∈ es, internal e = true) (hrun : run c s es = some s') :
    es.length ≤ measure s ∧
    ((∃ e, internal e = true ∧ (step c s' e).isSome = true) ∨
     (s'.applied = okSeqs c s.subs ∧ s'.results = List.range s.counter)) := by
  have hb := run_bounded es (.inr hint) hrun
  rw [List.filter_eq_self.2 hint] at hb
  obtain ⟨k1, k2, k3⟩ := run_invariant
    (P := fun t => t.subs = s.subs ∧ t.cancelled = s.cancelled ∧ t.counter = s.counter)
    (fun t e t' he hp hs => by
      obtain ⟨a1, a2, a3⟩ := internal_step_keeps (hint e he) (.of_step hs)
      exact ⟨a1.trans hp.1, a2.trans hp.2.1, a3.trans hp.2.2⟩) ⟨rfl, rfl, rfl⟩ hrun
  have hr' : Reachable c s' := reachable_run es hr hrun
  refine ⟨by omega, ?_⟩
  by_cases hq : Quiescent s'
  · right
    have := accepted_blocks_all_applied c hc s' hr' (by rw [k2]; exact hcn) hq
    rw [k1, k3] at this
    exact this
  · left
    exact progress c s' (wf_reachable c s' hr') hq

/-- Non-vacuity: a schedule with two failed submissions around accepted blocks, ending at rest. -/
example :
    (run ⟨false, false⟩ init
      [.start, .enter, .acq ⟨0, true, true⟩, .fail, .enter, .giveup, .enter, .acq ⟨0, true, true⟩, .sub ⟨0, true, true⟩,
       .enter, .enter, .acq ⟨1, true, true⟩, .giveup, .fail, .enter, .acq ⟨1, false, false⟩, .sub ⟨1, false, false⟩, .dt ⟨1, false, false⟩,
       .dp ⟨1, false, false⟩, .at_ ⟨1, false, false⟩, .ab ⟨1, false, false⟩,
       .dt ⟨0, true, true⟩, .dp ⟨0, true, true⟩, .at_ ⟨0, true, true⟩, .aq ⟨0, true, true⟩,
       .ap ⟨0, true, true⟩, .ad ⟨0, true, true⟩, .aq ⟨1, false, false⟩, .ad ⟨1, false, false⟩,
       .rs ⟨0, true, true⟩, .rs ⟨1, false, false⟩]).map
      (fun s => (decide (Quiescent s), s.cancelled, s.applied, s.results, s.counter))
      = some (true, false, [0], [0, 1], 2) := by decide

/-- The code before the repair (`legacy = true`): one failed submission, then an accepted good
    block that travels through the whole pipeline, is buffered by the apply stage behind the
    lost sequence number and is never applied — the pipeline is at rest with the block pending. -/
theorem legacy_submit_stalls :
    (run ⟨false, true⟩ init
      [.start, .enter, .acq ⟨0, true, true⟩, .fail, .enter, .acq ⟨1, true, true⟩, .sub ⟨1, true, true⟩, .dt ⟨1, true, true⟩, .dp ⟨1, true, true⟩,
       .at_ ⟨1, true, true⟩, .ab ⟨1, true, true⟩]).map
      (fun s => (decide (Quiescent s), s.cancelled, s.applied, s.pending.map Item.seq, s.nextSeq, s.counter))
      = some (true, false, [], [1], 0, 2) := by decide

end GV.Props.C44
