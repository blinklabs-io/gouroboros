import GV.Model.BodyHash
import GV.Proofs.BodyHash
import GV.Gen.SegCounts
/-!
C34 — Block bodies are bound to their headers at decode time.

With body validation enabled, decoding fails for any block whose body bytes differ from what
its header commits to: Shelley…Conway the hash of the segment hashes, Dijkstra the body hash,
Byron the body proof's transaction count, merkle root, witness hash, delegation and update
hashes.

All theorems are *symbolic*: the digest `h` is an abstract injective function (ideal hash), the
digest encoding is head-decodable (32 raw bytes are: `headDecodable_of_fixed`), the Byron merkle
root is an abstract injective function of the list of transaction bodies (C35 owns its shape). These are
hypotheses, never axioms; those on digest and encoding are satisfiable (`Toy.h_inj`,
`Toy.enc_headDecodable`; that the toy merkle root `Toy.mr` is injective is not proved).
What "decodes into the era's structs" means is the abstract predicate `wf`.
-/
namespace GV.Props.C34
open GV.Model.BodyHash GV.Proofs.BodyHash

variable {D : Type} [DecidableEq D]

/-! ### Shelley … Conway -/

/-- Two blocks accepted with validation on that share the header agree in their first `segCount`
    segments. -/
theorem accepted_prefix (P : Prims D) (hh : Inj P.h) (he : HeadDecodable P.enc)
    (E : Era) (wf : List Bytes → Bool) (expOf : Bytes → Option D) (segs segs' : List Bytes)
    (hacc : decodeSegwit P E wf expOf false segs = .ok)
    (hacc' : decodeSegwit P E wf expOf false segs' = .ok)
    (hhdr : segs'.headD [] = segs.headD []) :
    segs'.take E.segCount = segs.take E.segCount := by
  obtain ⟨_, e, he1, hl, hb⟩ := decodeSegwit_ok hacc
  obtain ⟨_, e', he1', hl', hb'⟩ := decodeSegwit_ok hacc'
  rw [hhdr, he1] at he1'
  cases he1'
  exact take_eq_of_covered_eq hl hl' hhdr
    (covered_eq_of_bodyHash_eq P hh he segs segs' E.segCount hl hl' (hb.trans hb'.symm))

/-- **bound**: a block accepted with validation on, and any block with the same header that
    differs in a segment the hash covers (index 1 … segCount-1), is rejected. -/
theorem bound (P : Prims D) (hh : Inj P.h) (he : HeadDecodable P.enc)
    (E : Era) (wf : List Bytes → Bool) (expOf : Bytes → Option D) (segs segs' : List Bytes)
    (hacc : decodeSegwit P E wf expOf false segs = .ok)
    (hhdr : segs'.headD [] = segs.headD [])
    (i : Nat) (hi1 : 1 ≤ i) (hi2 : i < E.segCount) (hdiff : segs'[i]? ≠ segs[i]?) :
    decodeSegwit P E wf expOf false segs' ≠ .ok := by
  intro hacc'
  apply hdiff
  rw [← List.getElem?_take_of_lt hi2, accepted_prefix P hh he E wf expOf segs segs' hacc hacc' hhdr,
    List.getElem?_take_of_lt hi2]

/-- With `segCount = arity` the whole block is bound: two accepted blocks with the same
    header are byte-for-byte the same list of segments. -/
theorem full_cover (P : Prims D) (hh : Inj P.h) (he : HeadDecodable P.enc)
    (E : Era) (hE : E.segCount = E.arity)
    (wf : List Bytes → Bool) (expOf : Bytes → Option D) (segs segs' : List Bytes)
    (hacc : decodeSegwit P E wf expOf false segs = .ok)
    (hacc' : decodeSegwit P E wf expOf false segs' = .ok)
    (hhdr : segs'.headD [] = segs.headD []) : segs' = segs := by
  have hpre := accepted_prefix P hh he E wf expOf segs segs' hacc hacc' hhdr
  have hs := (decodeSegwit_ok hacc).1
  have hs' := (decodeSegwit_ok hacc').1
  simp only [structOK, Bool.and_eq_true, beq_iff_eq] at hs hs'
  rwa [List.take_of_length_le (by omega), List.take_of_length_le (by omega)] at hpre

/-- Honesty about `n`: a segment at index ≥ segCount is NOT bound — changing it (same length,
    same structural verdict) never changes the verdict. With Conway's literal 5 edited to 4 this
    is exactly the invalid-transactions list. -/
theorem beyond_segCount_not_bound (P : Prims D) (E : Era) (wf : List Bytes → Bool)
    (expOf : Bytes → Option D) (skip : Bool) (segs segs' : List Bytes)
    (hpre : segs'.take E.segCount = segs.take E.segCount)
    (hhdr : segs'.headD [] = segs.headD [])
    (hlen : segs'.length = segs.length) (hwf : wf segs' = wf segs) :
    decodeSegwit P E wf expOf skip segs' = decodeSegwit P E wf expOf skip segs := by
  unfold decodeSegwit structOK validateBlockBodyHash bodyHash segDigests
  rw [hpre, hhdr, hlen, hwf]

/-- The regenerated table: in every segwit era the literal passed to ValidateBlockBodyHash equals
    the arity of the era's block struct, so (by `full_cover`) nothing in the body is left out —
    in particular the invalid-transactions list from Alonzo on. Breaks when a literal is edited
    (Conway 5 → 4) or a block struct gains an element the hash does not cover. -/
theorem all_segments_covered :
    GV.Gen.SegCounts.segCount.map (·.1) = ["shelley", "allegra", "mary", "alonzo", "babbage", "conway"] ∧
    GV.Gen.SegCounts.arity.map (·.1) = GV.Gen.SegCounts.segCount.map (·.1) ∧
    GV.Gen.SegCounts.structArity = GV.Gen.SegCounts.arity ∧
    eras.length = 6 ∧
    (∀ p ∈ eras, p.2.segCount = p.2.arity ∧ 2 ≤ p.2.segCount) ∧
    GV.Gen.SegCounts.dijkstraArity = 2 ∧ GV.Gen.SegCounts.dijkstraFields = 2 := by
  decide

theorem eraOf_covered (name : String) (E : Era) (h : eraOf name = some E) : E.segCount = E.arity := by
  obtain ⟨l₁, l₂, he, _⟩ := List.lookup_eq_some_iff.mp h
  -- the fifth conjunct: `segCount = arity ∧ 2 ≤ segCount` for every entry of `eras`
  exact (all_segments_covered.2.2.2.2.1 (name, E) (by rw [he]; simp)).1

/-- **bound, every era of /repo**: for each era name of the regenerated table, two blocks accepted
    with validation on that share the header are identical. -/
theorem bound_every_era (P : Prims D) (hh : Inj P.h) (he : HeadDecodable P.enc)
    (name : String) (E : Era) (hE : eraOf name = some E)
    (wf : List Bytes → Bool) (expOf : Bytes → Option D) (segs segs' : List Bytes)
    (hacc : decodeSegwit P E wf expOf false segs = .ok)
    (hacc' : decodeSegwit P E wf expOf false segs' = .ok)
    (hhdr : segs'.headD [] = segs.headD []) : segs' = segs :=
  full_cover P hh he E (eraOf_covered name E hE) wf expOf segs segs' hacc hacc' hhdr

/-! ### The skip flag -/

/-- With `SkipBodyHashValidation` the verdict is the structural one, nothing else;
    without it acceptance implies the structural check AND the hash comparison. -/
theorem skip_flag_only_skips (P : Prims D) (E : Era) (wf : List Bytes → Bool)
    (expOf : Bytes → Option D) (segs : List Bytes) :
    (decodeSegwit P E wf expOf true segs = if structOK E wf segs then .ok else .errDecode) ∧
    (decodeSegwit P E wf expOf false segs = .ok →
      structOK E wf segs = true ∧ ∃ e, expOf (segs.headD []) = some e ∧
        E.segCount ≤ segs.length ∧ bodyHash P segs E.segCount = e) ∧
    (decodeSegwit P E wf expOf false segs = .ok → decodeSegwit P E wf expOf true segs = .ok) := by
  refine ⟨?_, decodeSegwit_ok, ?_⟩
  · unfold decodeSegwit; cases structOK E wf segs <;> simp
  · intro h
    have := (decodeSegwit_ok h).1
    unfold decodeSegwit; simp [this]

/-! ### Dijkstra and the Byron epoch boundary block: one hash over one element -/

theorem dijkstra_bound (P : Prims D) (hh : Inj P.h) (wf : List Bytes → Bool)
    (expOf : Bytes → Option D) (segs segs' : List Bytes)
    (hacc : decodeDijkstra P GV.Gen.SegCounts.dijkstraArity wf expOf false segs = .ok)
    (hacc' : decodeDijkstra P GV.Gen.SegCounts.dijkstraArity wf expOf false segs' = .ok)
    (hhdr : segs'.headD [] = segs.headD []) : segs' = segs := by
  obtain ⟨l, h⟩ := decodeDijkstra_ok hacc
  obtain ⟨l', h'⟩ := decodeDijkstra_ok hacc'
  have hb := one_hash_binds hh hhdr h h'
  match segs, segs', l, l' with
  | [a, b], [a', b'], _, _ =>
    simp only [List.headD_cons, List.getD_cons_succ, List.getD_cons_zero] at hhdr hb
    rw [hhdr, hb]

theorem ebb_bound (P : Prims D) (hh : Inj P.h) (wf : List Bytes → Bool)
    (expOf : Bytes → Option D) (segs segs' : List Bytes)
    (hacc : decodeEbb P wf expOf false segs = .ok)
    (hacc' : decodeEbb P wf expOf false segs' = .ok)
    (hhdr : segs'.headD [] = segs.headD []) : segs'[1]? = segs[1]? := by
  obtain ⟨l, h⟩ := decodeEbb_ok hacc
  obtain ⟨l', h'⟩ := decodeEbb_ok hacc'
  have hb := one_hash_binds hh hhdr h h'
  simp only [List.getD_eq_getElem?_getD, List.getElem?_eq_getElem l, List.getElem?_eq_getElem l',
    Option.getD_some] at hb ⊢
  rw [hb]

/-! ### Byron main block -/

theorem checkProof_ok (c e : ByronProof D) (s : Bool) (h : checkProof c e s = .ok) :
    c = e ∧ s = true := by
  -- no exit value before the last is `.ok`, so each guard is false; `cases s` because `grind`
  -- does not decide the Boolean guard `!s` for a variable `s`
  cases s <;> grind [checkProof, cases ByronProof]

/-- **Byron bound**: two Byron main blocks accepted under the same header proof agree in the
    transaction count, the list of transaction bodies, the concatenated witness bytes, the
    delegation payload and the update payload. -/
theorem byron_bound (P : Prims D) (hh : Inj P.h) (mr : List Bytes → D) (hmr : Inj mr)
    (e : ByronProof D) (s s' : Bool) (b b' : ByronBody)
    (hacc : decodeByron P mr true (some e) s false b = .ok)
    (hacc' : decodeByron P mr true (some e) s' false b' = .ok) :
    b'.txs.length = b.txs.length ∧ b'.txs.map (·.1) = b.txs.map (·.1) ∧
    (b'.txs.map (·.2)).flatten = (b.txs.map (·.2)).flatten ∧ b'.dlg = b.dlg ∧ b'.upd = b.upd := by
  unfold decodeByron at hacc hacc'
  simp only [Bool.not_true, Bool.false_eq_true, ↓reduceIte] at hacc hacc'
  -- both computed proofs are the header's
  have heq := (checkProof_ok _ _ _ hacc').1.trans (checkProof_ok _ _ _ hacc).1.symm
  simp only [computeProof, ByronProof.mk.injEq] at heq
  obtain ⟨hcount, hmerkle, hwit, hdlg, hupd⟩ := heq
  refine ⟨hcount, hmr _ _ hmerkle, ?_, hh _ _ hdlg, hh _ _ hupd⟩
  have hw := hh _ _ hwit
  unfold encodeWitnessList at hw
  simp only [List.cons.injEq, true_and] at hw
  exact List.append_cancel_right hw

/-- Rejection form of `byron_bound`. -/
theorem byron_reject (P : Prims D) (hh : Inj P.h) (mr : List Bytes → D) (hmr : Inj mr)
    (e : ByronProof D) (s s' : Bool) (b b' : ByronBody)
    (hacc : decodeByron P mr true (some e) s false b = .ok)
    (hdiff : b'.txs.map (·.1) ≠ b.txs.map (·.1) ∨ (b'.txs.map (·.2)).flatten ≠ (b.txs.map (·.2)).flatten ∨
             b'.dlg ≠ b.dlg ∨ b'.upd ≠ b.upd) :
    decodeByron P mr true (some e) s' false b' ≠ .ok := by
  intro hacc'
  obtain ⟨_, h2, h3, h4, h5⟩ := byron_bound P hh mr hmr e s s' b b' hacc hacc'
  rcases hdiff with h | h | h | h
  · exact h h2
  · exact h h3
  · exact h h4
  · exact h h5

/-- When every witness blob comes from a head-decodable set (well-formed CBOR items are
    self-delimiting), equal concatenations mean equal witness lists. -/
theorem witnesses_split_unique (S : Bytes → Prop)
    (hS : ∀ a b r r', S a → S b → a ++ r = b ++ r' → a = b) :
    ∀ (l l' : List Bytes), (∀ x ∈ l, S x) → (∀ x ∈ l', S x) → l.length = l'.length →
      l.flatten = l'.flatten → l = l' :=
  flatten_inj S hS

/-- The documented gap: the ssc payload's bytes are not bound by default
    (only `ValidateSscProofShape`, abstracted as the flag, looks at it). -/
theorem byron_ssc_not_bound (P : Prims D) (mr : List Bytes → D) (wfOK : Bool)
    (e : Option (ByronProof D)) (s skip : Bool) (b : ByronBody) (ssc' : Bytes) :
    decodeByron P mr wfOK e s skip { b with ssc := ssc' } = decodeByron P mr wfOK e s skip b := rfl

theorem byron_skip_flag_only_skips (P : Prims D) (mr : List Bytes → D) (wfOK : Bool)
    (e : Option (ByronProof D)) (s : Bool) (b : ByronBody) :
    decodeByron P mr wfOK e s true b = if wfOK then .ok else .errDecode := by
  unfold decodeByron; cases wfOK <;> simp

/-! ### The other VerifyConfig toggles -/

/-- **Regenerated.** In the source as it stands, the decode-time body check of EVERY block
    constructor (Byron main, Byron EBB, Shelley … Conway, Dijkstra) is guarded by
    `!cfg.SkipBodyHashValidation` and by nothing else; that field is a declared toggle. -/
theorem gate_is_body_flag :
    GV.Gen.BodyGate.gate.map (·.1) =
      ["byron", "byronebb", "shelley", "allegra", "mary", "alonzo", "babbage", "conway", "dijkstra"] ∧
    (∀ p ∈ GV.Gen.BodyGate.gate, p.2 = "SkipBodyHashValidation") ∧
    "SkipBodyHashValidation" ∈ GV.Gen.BodyGate.verifyConfigBools := by
  -- membership by finding the name; no two names are ever compared for inequality
  refine ⟨rfl, ?_, ?_⟩ <;>
  simp only [GV.Gen.BodyGate.gate, GV.Gen.BodyGate.verifyConfigBools, List.mem_cons, List.not_mem_nil,
    or_false, forall_eq_or_imp, forall_eq, true_or, and_self]

/-- **Regenerated.** `ByronMainBlock.ValidateBodyProof` reaches the tx, delegation and update
    comparisons as top-level statements and has no config-dependent early return: the stricter
    `EnableByronSscProofHashValidation` mode cannot bypass them. -/
theorem byron_checks_unconditional :
    GV.Gen.BodyGate.byronEarlyReturns = 0 ∧
    "tx" ∈ GV.Gen.BodyGate.byronUnconditionalChecks ∧
    "delegation" ∈ GV.Gen.BodyGate.byronUnconditionalChecks ∧
    "update" ∈ GV.Gen.BodyGate.byronUnconditionalChecks := by
  simp only [GV.Gen.BodyGate.byronUnconditionalChecks, GV.Gen.BodyGate.byronEarlyReturns, List.mem_cons,
    true_or, or_true, and_self]

/-- **other_flags_irrelevant.** For every era, two configs that agree on
    `SkipBodyHashValidation` skip — or do not skip — the body check alike, whatever their other
    toggles say (present and future ones: the quantifier is over arbitrary flag lists). -/
theorem other_flags_irrelevant (era : String) (hera : era ∈ GV.Gen.BodyGate.gate.map (·.1))
    (c c' : Cfg) (h : c.get "SkipBodyHashValidation" = c'.get "SkipBodyHashValidation") :
    skipped era c = skipped era c' := by
  simp only [skipped, gateOf, lookup_const _ _ era gate_is_body_flag.2.1 hera, Option.getD_some, h]

/-- hence the verdicts of the segwit, Dijkstra and EBB decoders do not depend on them (Byron: the
    next theorem) -/
theorem verdict_independent_of_other_flags (P : Prims D) (E : Era) (wf : List Bytes → Bool)
    (expOf : Bytes → Option D) (segs : List Bytes) (era : String)
    (hera : era ∈ GV.Gen.BodyGate.gate.map (·.1)) (c c' : Cfg)
    (h : c.get "SkipBodyHashValidation" = c'.get "SkipBodyHashValidation") :
    decodeSegwit P E wf expOf (skipped era c) segs = decodeSegwit P E wf expOf (skipped era c') segs ∧
    decodeDijkstra P 2 wf expOf (skipped era c) segs = decodeDijkstra P 2 wf expOf (skipped era c') segs ∧
    decodeEbb P wf expOf (skipped era c) segs = decodeEbb P wf expOf (skipped era c') segs := by
  rw [other_flags_irrelevant era hera c c' h]
  exact ⟨rfl, rfl, rfl⟩

theorem byron_verdict_independent_of_other_flags (P : Prims D) (mr : List Bytes → D) (wfOK : Bool)
    (expected : Option (ByronProof D)) (sscOk : Bool) (b : ByronBody) (c c' : Cfg)
    (h : c.get "SkipBodyHashValidation" = c'.get "SkipBodyHashValidation") :
    decodeByron P mr wfOK expected sscOk (skipped "byron" c) b =
      decodeByron P mr wfOK expected sscOk (skipped "byron" c') b := by
  rw [other_flags_irrelevant "byron" (by decide) c c' h]

/-- the harness' config: the mask never touches `SkipBodyHashValidation` -/
example : (cfgOf false 15).get "SkipBodyHashValidation" = false ∧
    (cfgOf false 15).get "SkipBlockLimitsValidation" = true ∧
    (cfgOf true 0).get "SkipBodyHashValidation" = true ∧
    skipped "allegra" (cfgOf false 15) = false := by decide

/-! ### The full statement and what is not part of the theorem -/

/-- Full statement of C34 over the model (all layouts). Proved below (`C34_holds`) from the
    theorems above; what stays outside is the correspondence model ↔ code (run on every check)
    and the hypotheses on the primitives. -/
def C34_full : Prop :=
  ∀ (D : Type) [DecidableEq D] (P : Prims D), Inj P.h → HeadDecodable P.enc →
    -- segwit eras of /repo
    (∀ name E, eraOf name = some E → ∀ wf expOf segs segs',
        decodeSegwit P E wf expOf false segs = .ok → decodeSegwit P E wf expOf false segs' = .ok →
        segs'.headD [] = segs.headD [] → segs' = segs) ∧
    -- Dijkstra
    (∀ wf expOf segs segs',
        decodeDijkstra P GV.Gen.SegCounts.dijkstraArity wf expOf false segs = .ok →
        decodeDijkstra P GV.Gen.SegCounts.dijkstraArity wf expOf false segs' = .ok →
        segs'.headD [] = segs.headD [] → segs' = segs) ∧
    -- Byron (committed components)
    (∀ (mr : List Bytes → D), Inj mr → ∀ e s s' b b',
        decodeByron P mr true (some e) s false b = .ok → decodeByron P mr true (some e) s' false b' = .ok →
        b'.txs.map (·.1) = b.txs.map (·.1) ∧ (b'.txs.map (·.2)).flatten = (b.txs.map (·.2)).flatten ∧
        b'.dlg = b.dlg ∧ b'.upd = b.upd)

theorem C34_holds : C34_full := fun _ _ P hh he =>
  ⟨bound_every_era P hh he, dijkstra_bound P hh,
    fun mr hmr e s s' b b' hacc hacc' => (byron_bound P hh mr hmr e s s' b b' hacc hacc').2⟩

/-! ### Non-vacuity: a toy digest satisfying every hypothesis -/

namespace Toy
/-- digest = the bytes themselves (injective), encoded self-delimiting: each byte `b` as `1 b`, then `0`. -/
def enc : Bytes → Bytes
  | [] => [0]
  | b :: t => 1 :: b :: enc t

def prims : Prims Bytes := { h := id, enc := enc }

theorem h_inj : Inj prims.h := fun _ _ h => h

theorem enc_headDecodable : HeadDecodable prims.enc := by
  intro d
  induction d with
  | nil =>
    intro d' r r' h
    cases d' with
    | nil => rfl
    | cons b t => simp [prims, enc] at h
  | cons a t ih =>
    intro d' r r' h
    cases d' with
    | nil => simp [prims, enc] at h
    | cons b t' =>
      simp only [prims, enc, List.cons_append, List.cons.injEq, true_and] at h
      have := ih t' r r' h.2
      rw [h.1, this]

/-- merkle root toy: the list itself, flattened self-delimitingly -/
def mr (l : List Bytes) : Bytes := (l.map enc).flatten ++ [2]

def segs : List Bytes := [[0xaa], [1, 2], [3], [], [4]]
def conway : Era := { arity := 5, segCount := 5 }
def expOf : Bytes → Option Bytes := fun _ => some (bodyHash prims segs 5)

/-- an accepted block exists … -/
example : decodeSegwit prims conway (fun _ => true) expOf false segs = .ok := by decide
/-- … and changing its invalid-transactions segment gets it rejected when 5 segments are hashed … -/
example : decodeSegwit prims conway (fun _ => true) expOf false [[0xaa], [1, 2], [3], [], [5]] = .errBodyHash := by
  decide
/-- … but accepted when the literal is 4 (what `beyond_segCount_not_bound` says in general). -/
example : decodeSegwit prims { arity := 5, segCount := 4 } (fun _ => true)
    (fun _ => some (bodyHash prims segs 4)) false [[0xaa], [1, 2], [3], [], [5]] = .ok := by decide
/-- a 6th element is a decode error, a short block fails in the hash check's length guard -/
example : decodeSegwit prims conway (fun _ => true) expOf false (segs ++ [[]]) = .errDecode := by decide
example : decodeSegwit prims { arity := 4, segCount := 5 } (fun _ => true) expOf false (segs.take 4) = .errBodyHash := by
  decide
/-- `eraOf` is defined on the generated table -/
example : eraOf "conway" = some { arity := 5, segCount := 5 } ∧ eraOf "shelley" = some { arity := 4, segCount := 4 } := by
  decide

def body : ByronBody := { txs := [([1], [0x81]), ([2], [0x80])], ssc := [9], dlg := [0x80], upd := [0x82] }
example : decodeByron prims mr true (some (computeProof prims mr body)) true false body = .ok := by decide
example : decodeByron prims mr true (some (computeProof prims mr body)) true false { body with dlg := [0x9f, 0xff] }
    = .errBodyProof "delegation" := by decide
example : decodeByron prims mr true (some (computeProof prims mr body)) true false { body with txs := [([1], [0x81])] }
    = .errBodyProof "count" := by decide
end Toy

end GV.Props.C34
