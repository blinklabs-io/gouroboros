import GV.Model.StateMachines
import GV.Proofs.Machine
/-!
  Checkable bisimulation / isomorphism between two finite machines and the general
  lemma that a successful check implies equality of the accepted languages for
  traces of EVERY length (no bound).
-/
namespace GV.SM

def symsOf (impl spec : Machine) : List Sym := (impl.trans ++ spec.trans).map (·.sym)

def stepOk (impl spec : Machine) (rel : List (Nat × Nat)) (p q : Nat) (a : Sym) : Bool :=
  match impl.step p a, spec.step q a with
  | none, none => true
  | some p', some q' => rel.contains (p', q')
  | _, _ => false

/-- `rel` is a bisimulation containing the pair of initial states (decidable). -/
def bisimCheck (impl spec : Machine) (rel : List (Nat × Nat)) : Bool :=
  rel.contains (impl.init, spec.init) &&
  rel.all (fun pq => (symsOf impl spec).all (fun a => stepOk impl spec rel pq.1 pq.2 a))

def idsOf (m : Machine) : List Nat := m.states.map (·.id)

def sameSet (xs ys : List Nat) : Bool :=
  xs.length == ys.length && xs.all ys.contains && ys.all xs.contains

def nodupB : List Nat → Bool
  | [] => true
  | x :: xs => !xs.contains x && nodupB xs

/-- every transition starts and ends in a declared state, state ids are distinct -/
def wellFormed (m : Machine) : Bool :=
  nodupB (idsOf m) && (idsOf m).contains m.init &&
  m.trans.all (fun t => (idsOf m).contains t.src && (idsOf m).contains t.dst)

/-- `rel` is (the graph of) a bijection between the state sets that is a bisimulation and
    preserves agency (hence terminal states) and the initial state.  Theorems use only the
    bisimulation and the agency conjunct (`iso_bisim`, `iso_agency`); that the other conjuncts
    amount to a bijection between the state sets is not proved. -/
def isoCheck (impl spec : Machine) (rel : List (Nat × Nat)) : Bool :=
  wellFormed impl && wellFormed spec &&
  bisimCheck impl spec rel &&
  nodupB (rel.map (·.1)) && nodupB (rel.map (·.2)) &&
  sameSet (rel.map (·.1)) (idsOf impl) && sameSet (rel.map (·.2)) (idsOf spec) &&
  rel.all (fun pq => impl.agencyOf pq.1 == spec.agencyOf pq.2)

/-- outcome relation of two runs: both refuse, or both accept in related states -/
def relOut (rel : List (Nat × Nat)) : Option Nat → Option Nat → Prop
  | none, none => True
  | some p, some q => (p, q) ∈ rel
  | _, _ => False

theorem relOut_iff {rel : List (Nat × Nat)} {x y : Option Nat} :
    relOut rel x y ↔ Option.Rel (fun p q => (p, q) ∈ rel) x y := by
  cases x <;> cases y <;> simp [relOut]

theorem stepOk_iff {impl spec : Machine} {rel : List (Nat × Nat)} {p q : Nat} {a : Sym} :
    stepOk impl spec rel p q a = true ↔ relOut rel (impl.step p a) (spec.step q a) := by
  unfold stepOk relOut
  cases impl.step p a <;> cases spec.step q a <;> simp

theorem bisim_step {impl spec : Machine} {rel : List (Nat × Nat)}
    (hb : bisimCheck impl spec rel = true) {p q : Nat} (hpq : (p, q) ∈ rel) (a : Sym) :
    relOut rel (impl.step p a) (spec.step q a) := by
  unfold bisimCheck at hb
  simp only [Bool.and_eq_true, List.all_eq_true] at hb
  by_cases ha : a ∈ symsOf impl spec
  · exact stepOk_iff.mp (hb.2 (p, q) hpq a ha)
  · -- a symbol in no transition is refused by both
    simp only [symsOf, List.map_append, List.mem_append, not_or] at ha
    rw [Machine.step_eq_none ha.1, Machine.step_eq_none ha.2]
    trivial

theorem bisim_run {impl spec : Machine} {rel : List (Nat × Nat)}
    (hb : bisimCheck impl spec rel = true) (tr : List Sym) (p q : Nat) (hpq : (p, q) ∈ rel) :
    relOut rel (impl.run p tr) (spec.run q tr) := by
  rw [relOut_iff, Machine.run_eq_foldlM, Machine.run_eq_foldlM]
  exact StepSystem.foldlM_rel (fun _ _ a h => relOut_iff.mp (bisim_step hb h a)) tr hpq

theorem bisim_init_mem {impl spec : Machine} {rel : List (Nat × Nat)}
    (hb : bisimCheck impl spec rel = true) : (impl.init, spec.init) ∈ rel := by
  unfold bisimCheck at hb
  simp only [Bool.and_eq_true] at hb
  simpa using hb.1

theorem bisim_language_eq {impl spec : Machine} {rel : List (Nat × Nat)}
    (hb : bisimCheck impl spec rel = true) (tr : List Sym) :
    impl.accepts tr = spec.accepts tr :=
  StepSystem.Rel.isSome_eq (relOut_iff.mp (bisim_run hb tr _ _ (bisim_init_mem hb)))

theorem iso_bisim {impl spec : Machine} {rel : List (Nat × Nat)}
    (h : isoCheck impl spec rel = true) : bisimCheck impl spec rel = true := by
  unfold isoCheck at h
  simp only [Bool.and_eq_true] at h
  exact h.1.1.1.1.1.2

theorem iso_language_eq {impl spec : Machine} {rel : List (Nat × Nat)}
    (h : isoCheck impl spec rel = true) (tr : List Sym) :
    impl.accepts tr = spec.accepts tr ∧
    relOut rel (impl.run impl.init tr) (spec.run spec.init tr) :=
  ⟨bisim_language_eq (iso_bisim h) tr,
   bisim_run (iso_bisim h) tr _ _ (bisim_init_mem (iso_bisim h))⟩

theorem iso_agency {impl spec : Machine} {rel : List (Nat × Nat)}
    (h : isoCheck impl spec rel = true) {p q : Nat} (hpq : (p, q) ∈ rel) :
    impl.agencyOf p = spec.agencyOf q := by
  unfold isoCheck at h
  simp only [Bool.and_eq_true, List.all_eq_true] at h
  simpa using h.2 (p, q) hpq

end GV.SM
