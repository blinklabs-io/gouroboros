import GV.Model.ProtoEngine
import GV.Proofs.Machine
/-!
  Invariants of the abstract protocol engine, for every event sequence `step?` admits.
-/
namespace GV.Engine
open GV.SM

variable {m : Machine} {role : Nat}

theorem head?_eq_cons {α : Type} {xs : List α} {a : α} (h : xs.head? = some a) : xs = a :: xs.tail := by
  cases xs with
  | nil => simp at h
  | cons b rest => simp at h; simp [h]

theorem step_iff {s s' : S} {e : Ev} :
    step? m role s e = some s' ↔ guard m role s e = true ∧ s' = apply m role s e := by
  unfold step?
  by_cases h : guard m role s e = true
  · simp [h, eq_comm]
  · simp [h]

theorem ours_not_peers {q : Nat} (h : ours m role q = true) : peers m role q = false := by
  unfold ours peers at *; simp_all

theorem putTok_eq (s : S) (q : Nat) : putTok m role s q =
    { s with st := q, sendTok := s.sendTok || ours m role q, recvTok := s.recvTok || peers m role q } := by
  unfold putTok
  by_cases ho : ours m role q = true
  · simp [ho, ours_not_peers ho]
  · by_cases hp : peers m role q = true <;> simp [ho, hp]

@[simp] theorem putTok_batchOpen (s : S) (q : Nat) : (putTok m role s q).batchOpen = s.batchOpen := by
  rw [putTok_eq]

/-- What `step?` admits, case by case: the part of each guard that the invariants rest on, and
    the effect as one record update of `s` (so that a field an event leaves alone is carried over
    definitionally).  Not every conjunct of `guard` is kept (`stok` has neither `!sendHeld` nor
    `!batchOpen`, `deqHead` nothing of the `pos = 1` branch): `step_cases` has no converse. -/
inductive Step (m : Machine) (role : Nat) (s : S) : Ev → S → Prop
  | enq {a : Sym} : Step m role s (.enq a) { s with sendQ := s.sendQ ++ [a], enq := s.enq ++ [a] }
  | rq {a : Sym} : Step m role s (.rq a) { s with recvQ := s.recvQ ++ [a], inb := s.inb ++ [a] }
  | stok : s.sendTok = true → s.sendDead = false →
      Step m role s .stok { s with sendTok := false, sendHeld := true }
  | rtok : s.recvTok = true → s.recvDead = false →
      Step m role s .rtok { s with recvTok := false, recvHeld := true }
  | deqHead {a : Sym} : s.sendQ.head? = some a → s.sendDead = false → s.head = none →
      Step m role s (.deq a 1) { s with sendQ := s.sendQ.tail, head := some a }
  | deqNext {a : Sym} {pos : Nat} : s.sendQ.head? = some a → s.sendDead = false → s.head = none →
      Step m role s (.deq a pos)
        { s with sendQ := s.sendQ.tail, wire := s.wire ++ [a], pendT := s.pendT ++ [a] }
  | strans {a : Sym} {queued : Bool} : s.sendDead = false →
      Step m role s (.strans a queued) { s with reqS := some (a, queued) }
  | rtrans {a : Sym} : s.recvQ.head? = some a → s.recvDead = false → s.awaitHandle = none →
      s.reqR = none → Step m role s (.rtrans a) { s with recvQ := s.recvQ.tail, reqR := some a }
  | transHead {a : Sym} {src dst t : Nat} : s.sendHeld = true → s.reqS = some (a, false) →
      m.step s.st a = some dst → s.pendT = [] → s.head = some a →
      Step m role s (.trans src dst t)
        { s with sendHeld := false, reqS := none, head := none, batchOpen := true,
                 wire := s.wire ++ [a], sendTrans := s.sendTrans ++ [a], tlog := s.tlog ++ [a],
                 slog := s.slog ++ [(s.st, a)], st := dst,
                 sendTok := s.sendTok || ours m role dst, recvTok := s.recvTok || peers m role dst }
  | transQueued {a : Sym} {src dst t : Nat} : s.sendHeld = true → s.reqS = some (a, true) →
      m.step s.st a = some dst → s.pendT.head? = some a →
      Step m role s (.trans src dst t)
        { s with sendHeld := false, reqS := none, pendT := s.pendT.tail,
                 sendTrans := s.sendTrans ++ [a], tlog := s.tlog ++ [a],
                 slog := s.slog ++ [(s.st, a)], st := dst,
                 sendTok := s.sendTok || ours m role dst, recvTok := s.recvTok || peers m role dst }
  | transRecv {a : Sym} {src dst t : Nat} : s.recvHeld = true → s.reqR = some a →
      m.step s.st a = some dst →
      Step m role s (.trans src dst t)
        { s with recvHeld := false, reqR := none, awaitHandle := some a, tlog := s.tlog ++ [a],
                 hlog := s.hlog ++ [(s.st, a)], st := dst,
                 sendTok := s.sendTok || ours m role dst, recvTok := s.recvTok || peers m role dst }
  | errHead {a : Sym} {src t : Nat} : s.reqS = some (a, false) → m.step s.st a = none →
      s.head = some a →
      Step m role s (.transerr src t)
        { s with reqS := none, head := none, sendRej := some a, sendDead := true }
  | errQueued {a : Sym} {src t : Nat} : s.reqS = some (a, true) →
      Step m role s (.transerr src t) { s with reqS := none, sendDead := true }
  | errRecv {a : Sym} {src t : Nat} : s.recvHeld = true → s.reqR = some a → m.step s.st a = none →
      Step m role s (.transerr src t) { s with reqR := none, recvRej := some a, recvDead := true }
  | start : s.started = false → s.st = m.init →
      Step m role s (.state s.st true)
        { s with started := true, sendTok := s.sendTok || ours m role s.st,
                 recvTok := s.recvTok || peers m role s.st }
  | seg : Step m role s .seg { s with batchOpen := false }
  | handle {a : Sym} {t : Nat} : s.awaitHandle = some a →
      Step m role s (.handle t) { s with awaitHandle := none, handled := s.handled ++ [a] }
  | state {id : Nat} : Step m role s (.state id false) s
  | tokput {r d : Bool} : Step m role s (.tokput r d) s
  | other : Step m role s .other s

theorem step_cases {s s' : S} {e : Ev} (h : step? m role s e = some s') : Step m role s e s' := by
  obtain ⟨hg, rfl⟩ := step_iff.mp h
  -- `hg` becomes the conjuncts of `guard` for the event, flat and in the order written there
  cases e <;>
    simp only [guard, apply, putTok_eq, Bool.and_eq_true, beq_iff_eq, Bool.not_eq_true',
      Option.isNone_iff_eq_none, and_assoc] at hg ⊢
  case enq => exact .enq
  case rq => exact .rq
  case seg => exact .seg
  case tokput => exact .tokput
  case other => exact .other
  case stok =>
    obtain ⟨tok, -, -, alive⟩ := hg
    exact .stok tok alive
  case rtok =>
    obtain ⟨tok, -, alive⟩ := hg
    exact .rtok tok alive
  case strans => exact .strans hg.1
  case rtrans =>
    obtain ⟨front, -, alive, noHandle, noReq⟩ := hg
    exact .rtrans front alive noHandle noReq
  case deq a pos =>
    obtain ⟨front, alive, noHead, -⟩ := hg
    split
    · next hp => exact hp ▸ .deqHead front alive noHead
    · exact .deqNext front alive noHead
  case handle t =>
    split
    · next a ha => exact .handle ha
    · next ha => simp [ha] at hg
  case state id initial =>
    cases initial with
    | false => exact .state
    | true =>
      simp only [if_true, Bool.and_eq_true, Bool.not_eq_true', beq_iff_eq, and_assoc] at hg
      obtain ⟨notStarted, atInit, rfl⟩ := hg
      exact .start notStarted atInit
  -- `trans`, `transerr`, by who `who s` finds waiting: the send loop for the head of a batch, the
  -- send loop for a queued transition, the receive loop; for nobody the guard is false
  case trans src dst t =>
    revert hg
    fun_cases who s <;>
      simp only [Bool.and_eq_true, beq_iff_eq, List.isEmpty_iff, Bool.false_eq_true, and_false,
        false_imp_iff, and_assoc] <;> intro hg
    case case1 a held req =>
      obtain ⟨-, -, step, noPend, head⟩ := hg
      exact .transHead held req step noPend head
    case case2 a held req =>
      obtain ⟨-, pend, -, step⟩ := hg
      exact .transQueued held req step pend
    case case3 a held req notHead notQueued =>
      obtain ⟨-, -, step⟩ := hg
      exact .transRecv held req step
  case transerr src t =>
    revert hg
    fun_cases who s <;>
      simp only [Bool.and_eq_true, beq_iff_eq, Bool.false_eq_true, and_false, false_imp_iff,
        and_assoc] <;> intro hg
    case case1 a _ req =>
      obtain ⟨-, -, noStep, head⟩ := hg
      exact .errHead req noStep head
    case case2 a _ req => exact .errQueued req
    case case3 a held req notHead notQueued =>
      obtain ⟨-, -, noStep⟩ := hg
      exact .errRecv held req noStep

/-! ### ready tokens follow agency -/
structure TokInv (m : Machine) (role : Nat) (s : S) : Prop where
  tok1 : ¬(s.sendTok = true ∧ s.sendHeld = true)
  tok2 : ¬(s.recvTok = true ∧ s.recvHeld = true)
  tokS : (s.sendTok = true ∨ s.sendHeld = true) → ours m role s.st = true
  tokR : (s.recvTok = true ∨ s.recvHeld = true) → peers m role s.st = true
  pre : s.started = false →
    s.sendTok = false ∧ s.sendHeld = false ∧ s.recvTok = false ∧ s.recvHeld = false

theorem tokInv_init : TokInv m role (init m) := by
  constructor <;> simp [init]

theorem TokInv.sendHeld_excl {s : S} (hi : TokInv m role s) (h : s.sendHeld = true) :
    s.sendTok = false ∧ s.recvTok = false ∧ s.recvHeld = false := by
  have hp := ours_not_peers (hi.tokS (.inr h))
  have := hi.tok1; have := hi.tokR
  simp_all

theorem TokInv.recvHeld_excl {s : S} (hi : TokInv m role s) (h : s.recvHeld = true) :
    s.recvTok = false ∧ s.sendTok = false ∧ s.sendHeld = false := by
  have hp := hi.tokR (.inr h)
  have := hi.tok2; have := fun h => ours_not_peers (hi.tokS h)
  simp_all

theorem TokInv.started_of_held {s : S} (hi : TokInv m role s)
    (h : s.sendHeld = true ∨ s.recvHeld = true) : s.started = true := by
  cases hs : s.started with
  | true => rfl
  | false => have := hi.pre hs; simp_all

/-- the state just after `setState` -/
theorem TokInv.enter {s : S} (h0 : s.started = true) (h1 : s.sendHeld = false)
    (h2 : s.recvHeld = false) (h3 : s.sendTok = ours m role s.st) (h4 : s.recvTok = peers m role s.st) :
    TokInv m role s := by
  constructor <;> simp_all

theorem tokInv_step {s s' : S} {e : Ev} (hi : TokInv m role s) (h : Step m role s e s') :
    TokInv m role s' := by
  -- `id` (here and in `sendInv_step`, `recvInv_step`): destructuring the bare hypothesis would
  -- clear it, and `hi.sendHeld_excl` etc. are still wanted below
  obtain ⟨t1, t2, tS, tR, tP⟩ := id hi
  cases h with
  | stok hT _ =>
    exact ⟨by simp, t2, fun _ => tS (.inl hT), tR, fun hs => by simp [tP hs] at hT⟩
  | rtok hT _ =>
    exact ⟨t1, by simp, tS, fun _ => tR (.inl hT), fun hs => by simp [tP hs] at hT⟩
  | transHead hh | transQueued hh =>
    have ⟨e1, e2, e3⟩ := hi.sendHeld_excl hh
    exact .enter (hi.started_of_held (.inl hh)) rfl e3 (by simp [e1]) (by simp [e2])
  | transRecv hh =>
    have ⟨e1, e2, e3⟩ := hi.recvHeld_excl hh
    exact .enter (hi.started_of_held (.inr hh)) e3 rfl (by simp [e2]) (by simp [e1])
  | start h0 =>
    have ⟨p1, p2, p3, p4⟩ := tP h0
    exact .enter rfl p2 p4 (by simp [p1]) (by simp [p3])
  | _ => exact ⟨t1, t2, tS, tR, tP⟩

/-! ### every transition that was applied was permitted, with the right side holding agency -/
structure LogInv (m : Machine) (role : Nat) (s : S) : Prop where
  /-- every received message whose transition was applied (and that goes to the handler) was
      processed in a state where the PEER holds agency and the state machine permits it -/
  hlogOk : ∀ qa ∈ s.hlog, peers m role qa.1 = true ∧ (m.step qa.1 qa.2).isSome = true
  /-- every sent message advanced the state in a state where WE hold agency and it is permitted -/
  slogOk : ∀ qa ∈ s.slog, ours m role qa.1 = true ∧ (m.step qa.1 qa.2).isSome = true
  /-- the current state is the state machine run along all applied transitions, in order -/
  path : m.run m.init s.tlog = some s.st

theorem logInv_init : LogInv m role (init m) := by
  constructor <;> simp [init, Machine.run]

theorem logInv_step {s s' : S} {e : Ev} (ht : TokInv m role s) (hi : LogInv m role s)
    (h : Step m role s e s') : LogInv m role s' := by
  obtain ⟨hH, hS, hP⟩ := hi
  have snoc {a dst} (hst : m.step s.st a = some dst) : m.run m.init (s.tlog ++ [a]) = some dst := by
    simp [Machine.run_append, hP, Machine.run, hst]
  cases h with
  | transHead hh _ hst | transQueued hh _ hst =>
    exact ⟨hH, List.forall_mem_append.mpr ⟨hS, by simp [ht.tokS (.inr hh), hst]⟩, snoc hst⟩
  | transRecv hh _ hst =>
    exact ⟨List.forall_mem_append.mpr ⟨hH, by simp [ht.tokR (.inr hh), hst]⟩, hS, snoc hst⟩
  | _ => exact ⟨hH, hS, hP⟩

/-! ### the send side keeps queue order; local transitions follow the wire -/
structure SendInv (s : S) : Prop where
  /-- everything enqueued is, in queue order: already on the wire, or the dequeued head waiting
      for its transition, or the (single) refused head, or still queued — each exactly once -/
  wireOrder : s.enq = s.wire ++ s.head.toList ++ s.sendRej.toList ++ s.sendQ
  /-- the messages whose local transition was applied, followed by the pending queued
      transitions, are exactly the wire sequence -/
  transWire : s.sendTrans ++ s.pendT = s.wire
  deadS : s.sendDead = true → s.reqS = none
  rejS : s.sendDead = false → s.sendRej = none

theorem sendInv_init : SendInv (init m) := by
  constructor <;> simp [init]

theorem SendInv.alive {s : S} (hi : SendInv s) {x} (h : s.reqS = some x) : s.sendDead = false := by
  have := hi.deadS; cases hd : s.sendDead <;> simp_all

theorem sendInv_step {s s' : S} {e : Ev} (hi : SendInv s) (h : Step m role s e s') : SendInv s' := by
  obtain ⟨hW, hT, hD, hR⟩ := id hi
  cases h with
  | enq => exact ⟨by simp [hW], hT, hD, hR⟩
  | deqHead hq hd hh =>
    exact ⟨by simp [hW, hh, hR hd, ← head?_eq_cons hq], hT, hD, hR⟩
  | deqNext hq hd hh =>
    exact ⟨by simp [hW, hh, hR hd, ← head?_eq_cons hq], by simp [← hT], hD, hR⟩
  | strans hd => exact ⟨hW, hT, fun h => by simp [hd] at h, hR⟩
  | transHead _ hq _ hp hh =>
    exact ⟨by simp [hW, hh, hR (hi.alive hq)], by simp [← hT, hp], fun _ => rfl, hR⟩
  | transQueued _ hq _ hp =>
    exact ⟨hW, by rw [← hT, head?_eq_cons hp]; simp, fun _ => rfl, hR⟩
  | errHead hq _ hh =>
    exact ⟨by simp [hW, hh, hR (hi.alive hq)], hT, fun _ => rfl, nofun⟩
  | errQueued => exact ⟨hW, hT, fun _ => rfl, nofun⟩
  | _ => exact ⟨hW, hT, hD, hR⟩

/-! ### the receive side: the handler sees a prefix of the inbound stream, in order -/
structure RecvInv (s : S) : Prop where
  /-- the inbound stream is, in order: the messages whose transition was applied, the (single)
      refused message, the message whose transition is being requested, the still queued ones -/
  inbOrder : s.inb = s.hlog.map (·.2) ++ s.recvRej.toList ++ s.reqR.toList ++ s.recvQ
  /-- the handler has been invoked for exactly the applied ones, in order (the last may be pending) -/
  handledOk : s.hlog.map (·.2) = s.handled ++ s.awaitHandle.toList
  deadR : s.recvDead = true → s.reqR = none ∧ s.awaitHandle = none
  rejR : s.recvDead = false → s.recvRej = none
  reqAwait : ∀ a, s.reqR = some a → s.awaitHandle = none

theorem recvInv_init : RecvInv (init m) := by
  constructor <;> simp [init]

theorem RecvInv.alive {s : S} (hi : RecvInv s) {x} (h : s.reqR = some x) : s.recvDead = false := by
  have := hi.deadR; cases hd : s.recvDead <;> simp_all

theorem recvInv_step {s s' : S} {e : Ev} (hi : RecvInv s) (h : Step m role s e s') : RecvInv s' := by
  obtain ⟨hI, hH, hD, hR, hA⟩ := id hi
  cases h with
  | rq => exact ⟨by simp [hI], hH, hD, hR, hA⟩
  | rtrans hq hd haw hreq =>
    exact ⟨by simp [hI, hreq, hR hd, ← head?_eq_cons hq], hH,
      fun h => by simp [hd] at h, hR, fun _ _ => haw⟩
  | transRecv _ hq =>
    have haw := hA _ hq
    exact ⟨by simp [hI, hq, hR (hi.alive hq)], by simp [hH, haw],
      fun h => by simp [hi.alive hq] at h, hR, nofun⟩
  | errRecv _ hq =>
    exact ⟨by simp [hI, hq, hR (hi.alive hq)], hH, fun _ => ⟨rfl, hA _ hq⟩, nofun, nofun⟩
  | handle ha =>
    exact ⟨hI, by simp [hH, ha], fun h => ⟨(hD h).1, rfl⟩, hR, fun _ _ => rfl⟩
  | _ => exact ⟨hI, hH, hD, hR, hA⟩

/-! ### all invariants together, lifted over every schedule -/
structure Inv (m : Machine) (role : Nat) (s : S) : Prop where
  tok : TokInv m role s
  log : LogInv m role s
  snd : SendInv s
  rcv : RecvInv s

theorem inv_init : Inv m role (init m) := ⟨tokInv_init, logInv_init, sendInv_init, recvInv_init⟩

theorem inv_step {s s' : S} {e : Ev} (hi : Inv m role s) (h : Step m role s e s') : Inv m role s' :=
  ⟨tokInv_step hi.tok h, logInv_step hi.tok hi.log h, sendInv_step hi.snd h, recvInv_step hi.rcv h⟩

theorem run_eq_foldlM (s : S) (evs : List Ev) :
    run m role s evs = evs.foldlM (step? m role) s := by
  fun_induction run m role s evs <;> simp [*]

theorem inv_run {P : S → Prop}
    (hstep : ∀ {t t' : S} {e : Ev}, Inv m role t → P t → Step m role t e t' → P t')
    (evs : List Ev) {s s' : S} (hi : Inv m role s) (hp : P s) (h : run m role s evs = some s') : P s' :=
  (StepSystem.foldlM_invariant evs (P := fun t => Inv m role t ∧ P t)
    (fun _ _ _ _ ⟨hi, hp⟩ hs => have hs := step_cases hs; ⟨inv_step hi hs, hstep hi hp hs⟩)
    ⟨hi, hp⟩ (run_eq_foldlM s evs ▸ h)).2

theorem inv_reachable (evs : List Ev) {s : S} (h : run m role (init m) evs = some s) : Inv m role s :=
  inv_run (fun hi _ hs => inv_step hi hs) evs inv_init inv_init h

end GV.Engine
