import GV.Model.Selection
import GV.Proofs.Selection
import GV.Proofs.GoLite
import GV.Gen.SrcG7
/-!
C41 — Chain selection is a consistent preference order.

Chain comparison is antisymmetric and transitive, so it is a total preorder.
Without a deep fork, longer chains win and ties go to the lower VRF output; a
fork deeper than k blocks is decided by window density first.  The preferred
candidate is a maximal element whatever order the candidates are given in.

`Pre P cmp` (GV.Proofs.Selection) = `cmp` is antisymmetric and transitive on
the candidates satisfying `P`.  Everything is for arbitrary tips, parameters
and candidate lists of any length.
-/
namespace GV.Props.C41
open GV.Model.Selection GV.Proofs.Selection

/-! ### keys -/
def kSome (c : Cand) : Int := if c.isSome then 1 else 0
def kBn (c : Cand) : Int := match c with | some t => t.bn | none => 0
def kHasVrf (c : Cand) : Int := match c with | some t => if t.vrf.isEmpty then 0 else 1 | none => 0
/-- lower VRF output is preferred: the key is the negated big-endian value -/
def kVrf (c : Cand) : Int := match c with | some t => - (vrfNat t.vrf : Int) | none => 0

/-- `Compare` is the lexicographic comparison of the key
    (non-nil, block number, has a VRF output, −VRF value) -/
theorem compare_eq_lex (a b : Cand) :
    compareTips a b = lexC (cmpOn kSome) (lexC (cmpOn kBn) (lexC (cmpOn kHasVrf) (cmpOn kVrf))) a b := by
  simp only [lexC_cmpOn]
  cases a with
  | none => cases b <;> simp [compareTips, kSome, kBn, kHasVrf, kVrf, cmpOn]
  | some x =>
    cases b with
    | none => simp [compareTips, kSome]
    | some y =>
      simp only [compareTips, kSome, kBn, kHasVrf, kVrf, cmpOn, Option.isSome_some, ↓reduceIte, ne_eq,
        not_true_eq_false, Int.natCast_inj, gt_iff_lt, Int.ofNat_lt, Int.neg_lt_neg_iff]
      cases hx : x.vrf.isEmpty <;> cases hy : y.vrf.isEmpty <;> simp
      -- left over: both VRF outputs empty, where the last key compares `vrfNat []` with itself
      rw [List.isEmpty_iff.mp hx, List.isEmpty_iff.mp hy]; simp

/-- **`Compare` is a total preorder** on all candidates (nil included). -/
theorem compare_pre : Pre (fun _ : Cand => True) compareTips :=
  (Pre.lex (Pre.ofKey kSome) (Pre.lex (Pre.ofKey kBn) (Pre.lex (Pre.ofKey kHasVrf) (Pre.ofKey kVrf)))).congr
    (fun a b _ _ => compare_eq_lex a b)

theorem compare_antisymm (a b : Cand) : compareTips b a = - compareTips a b :=
  compare_pre.antisymm a b trivial trivial

theorem compare_trans (a b c : Cand) (h1 : 0 ≤ compareTips a b) (h2 : 0 ≤ compareTips b c) :
    0 ≤ compareTips a c := compare_pre.trans a b c trivial trivial trivial h1 h2

theorem compare_trans_strict (a b c : Cand) (h1 : 0 < compareTips a b) (h2 : 0 ≤ compareTips b c) :
    0 < compareTips a c :=
  compare_pre.trans_strict a b c trivial trivial trivial (by omega) h2 (.inl h1)

/-- longer chains win -/
theorem longer_wins (a b : Tip) (h : a.bn > b.bn) : compareTips (some a) (some b) = 1 := by
  simp only [compareTips]; have : a.bn ≠ b.bn := by omega
  simp [this, h]

/-- equal length: the lower VRF output wins -/
theorem tie_lower_vrf_wins (a b : Tip) (h : a.bn = b.bn) (ha : a.vrf ≠ []) (hb : b.vrf ≠ [])
    (hv : vrfNat a.vrf < vrfNat b.vrf) : compareTips (some a) (some b) = 1 := by
  simp [compareTips, h, ha, hb, hv]

/-- equal length: a missing VRF output loses against any present one -/
theorem tie_missing_vrf_loses (a b : Tip) (h : a.bn = b.bn) (ha : a.vrf = []) (hb : b.vrf ≠ []) :
    compareTips (some a) (some b) = -1 := by
  simp [compareTips, h, ha, hb]

/-! ### CompareWithDensity -/

def deep (p : Params) : Bool := isDeepFork p.k p.forkBN p.tipBN

/-- without a deep fork, density is never consulted -/
theorem shallow_is_compare (p : Params) (a b : Cand) (h : deep p = false) :
    compareWithDensity p a b = compareTips a b := by
  unfold deep at h
  cases a <;> cases b <;> simp [compareWithDensity, compareTips, h]

/-- a deep fork is decided by window density first … -/
theorem deep_density_first (p : Params) (x y : Tip) (h : deep p = true)
    (hd : compareDensity p.window p.forkSlot x y ≠ 0) :
    compareWithDensity p (some x) (some y) = compareDensity p.window p.forkSlot x y := by
  unfold deep at h
  simp [compareWithDensity, h, hd]

/-- … and only an exact density tie falls back to the ordinary rule -/
theorem deep_tie_is_compare (p : Params) (x y : Tip) (h : deep p = true)
    (hd : compareDensity p.window p.forkSlot x y = 0) :
    compareWithDensity p (some x) (some y) = compareTips (some x) (some y) := by
  unfold deep at h
  simp [compareWithDensity, h, hd]

/-- with both tips windowed and a window configured, "density" is the count of blocks in the window -/
theorem deep_density_is_window_count (p : Params) (x y : Tip) (hw : p.window > 0)
    (hx : x.windowed = true) (hy : y.windowed = true) :
    compareDensity p.window p.forkSlot x y =
      cmpNat (blocksInWindow x p.forkSlot p.window) (blocksInWindow y p.forkSlot p.window) := by
  simp [compareDensity, usesCount, densKey, hw, hx, hy]

/-- the density key of a candidate under a fixed metric -/
def kDens (m : Bool) (p : Params) (c : Cand) : Int :=
  match c with | some t => densKey m p.window p.forkSlot t | none => 0

/-- `CompareWithDensity` with the one metric `m` for all pairs (`U`: uniform) -/
def cwdU (m : Bool) (p : Params) : Cand → Cand → Int :=
  lexC (cmpOn kSome) (if deep p then lexC (cmpOn (kDens m p)) compareTips else compareTips)

theorem cwdU_pre (m : Bool) (p : Params) : Pre (fun _ : Cand => True) (cwdU m p) := by
  unfold cwdU
  split
  · exact Pre.lex (Pre.ofKey kSome) (Pre.lex (Pre.ofKey _) compare_pre)
  · exact Pre.lex (Pre.ofKey kSome) compare_pre

theorem cmpNat_eq_cmpOn (a b : Nat) : cmpNat a b = cmpOn (fun n : Nat => (n : Int)) a b := by
  simp only [cmpNat, cmpOn, gt_iff_lt, Int.ofNat_lt]

theorem cwdm_eq_cwdU (p : Params) (m : Bool) (a b : Cand) :
    compareWithDensityMetric p m a b = cwdU m p a b := by
  unfold cwdU
  rw [lexC_cmpOn]
  cases a with
  | none => cases b <;> cases deep p <;> rfl
  | some x =>
    cases b with
    | none => rfl
    | some y =>
      simp only [compareWithDensityMetric, compareDensityMetric, cmpNat_eq_cmpOn]
      rw [show isDeepFork p.k p.forkBN p.tipBN = deep p from rfl]
      cases deep p <;> rfl

/-- with the metric fixed, the comparison is a total preorder on ALL candidates, mixed or not -/
theorem cwdm_pre (p : Params) (m : Bool) : Pre (fun _ : Cand => True) (compareWithDensityMetric p m) :=
  (cwdU_pre m p).congr (fun a b _ _ => cwdm_eq_cwdU p m a b)

/-- on every pair for which `compareDensity` picks metric `m`, the real comparison is `cwdU m` -/
theorem cwd_eq_cwdU_pair (p : Params) (a b : Cand) (m : Bool)
    (h : ∀ x y, a = some x → b = some y → usesCount p.window x y = m) :
    compareWithDensity p a b = cwdU m p a b := by
  rw [← cwdm_eq_cwdU]
  cases a <;> cases b <;> try rfl
  rw [← h _ _ rfl rfl]; rfl

/-- `CompareWithDensity` is `compareWithDensityMetric` at the pair's own metric (as in the Go code) -/
theorem cwd_is_pair_metric (p : Params) (a b : Cand) :
    compareWithDensity p a b = compareWithDensityMetric p (windowMetricFor p [a, b]) a b := by
  rw [cwdm_eq_cwdU]
  refine cwd_eq_cwdU_pair p a b _ fun x y hx hy => ?_
  subst hx hy
  simp only [windowMetricFor, candWindowed, usesCount, List.all_cons, List.all_nil, Bool.and_true,
    Bool.and_assoc]

def allWindowed (c : Cand) : Prop := ∀ t, c = some t → t.windowed = true
def noneWindowed (c : Cand) : Prop := ∀ t, c = some t → t.windowed = false

theorem cwd_pre_of_metric {P : Cand → Prop} (p : Params) (m : Bool)
    (h : ∀ a b, P a → P b → ∀ x y, a = some x → b = some y → usesCount p.window x y = m) :
    Pre P (compareWithDensity p) :=
  ((cwdU_pre m p).mono fun _ _ => trivial).congr fun a b ha hb =>
    cwd_eq_cwdU_pair p a b m (h a b ha hb)

/-- **`CompareWithDensity` is a total preorder** on candidates that all carry
    window slot lists (`*WindowedChainTip`), for every parameter set … -/
theorem cwd_pre_windowed (p : Params) : Pre allWindowed (compareWithDensity p) :=
  cwd_pre_of_metric p (decide (p.window > 0)) fun a b ha hb x y hx hy => by
    simp [usesCount, ha x hx, hb y hy]

/-- … on candidates none of which does (`*SimpleChainTip`) … -/
theorem cwd_pre_simple (p : Params) : Pre noneWindowed (compareWithDensity p) :=
  cwd_pre_of_metric p false fun a b ha hb x y hx hy => by simp [usesCount, ha x hx]

/-- … and on arbitrary mixtures when no genesis window is configured. -/
theorem cwd_pre_nowindow (p : Params) (hw : p.window = 0) :
    Pre (fun _ : Cand => True) (compareWithDensity p) :=
  cwd_pre_of_metric p false fun a b _ _ x y _ _ => by simp [usesCount, hw]

theorem windowMetricFor_perm (p : Params) (l1 l2 : List Cand) (hp : l1.Perm l2) :
    windowMetricFor p l1 = windowMetricFor p l2 := by
  unfold windowMetricFor
  rw [hp.all_eq]

/-- **Antisymmetry holds unconditionally**, for every pair of candidates of any
    kind: the metric choice is symmetric in the pair. -/
theorem cwd_antisymm (p : Params) (a b : Cand) :
    compareWithDensity p b a = - compareWithDensity p a b := by
  rw [cwd_is_pair_metric p b a, cwd_is_pair_metric p a b,
    windowMetricFor_perm p [b, a] [a, b] (List.Perm.swap a b [])]
  exact (cwdm_pre p _).antisymm a b trivial trivial

/-- **Transitivity holds for every triple whose three pairs are compared with the
    same metric** — so the only way `CompareWithDensity` can be inconsistent is the
    mixed case of the recorded finding, and `mixed_cycle_witness` shows that case is real. -/
theorem cwd_trans_same_metric (p : Params) (a b c : Cand) (m : Bool)
    (hab : ∀ x y, a = some x → b = some y → usesCount p.window x y = m)
    (hbc : ∀ x y, b = some x → c = some y → usesCount p.window x y = m)
    (hac : ∀ x y, a = some x → c = some y → usesCount p.window x y = m)
    (h1 : 0 ≤ compareWithDensity p a b) (h2 : 0 ≤ compareWithDensity p b c) :
    0 ≤ compareWithDensity p a c := by
  rw [cwd_eq_cwdU_pair p a b m hab] at h1
  rw [cwd_eq_cwdU_pair p b c m hbc] at h2
  rw [cwd_eq_cwdU_pair p a c m hac]
  exact (cwdU_pre m p).trans a b c trivial trivial trivial h1 h2

/-! ### selectPreferred -/

/-- **The preferred candidate is a maximal element**: whenever `cmp` is a total
    preorder on the candidates, `selectPreferred` returns a member of the list
    (at the reported index) that is at least as preferred as every candidate. -/
theorem preferred_maximal {P : Cand → Prop} {cmp : Cand → Cand → Int} (h : Pre P cmp)
    (l : List Cand) (hl : ∀ x ∈ l, P x) (i : Nat) (r : Cand)
    (hr : selectPreferred cmp l = some (i, r)) :
    l[i]? = some r ∧ ∀ x ∈ l, 0 ≤ cmp r x := by
  cases l with
  | nil => simp [selectPreferred] at hr
  | cons c cs =>
    simp only [selectPreferred, Option.some.injEq, Prod.mk.injEq] at hr
    obtain ⟨rfl, rfl⟩ := hr
    exact (fold_indexed_maximal (fun _ _ => rfl) h c cs hl).2

/-- **… whatever order the candidates are given in**: for two orderings of the
    same candidates the two answers are equivalent under the preference order
    (they can differ only between candidates that compare as equal). -/
theorem preferred_order_independent {P : Cand → Prop} {cmp : Cand → Cand → Int} (h : Pre P cmp)
    (l1 l2 : List Cand) (hp : l1.Perm l2) (hl : ∀ x ∈ l1, P x)
    (i1 i2 : Nat) (r1 r2 : Cand)
    (h1 : selectPreferred cmp l1 = some (i1, r1)) (h2 : selectPreferred cmp l2 = some (i2, r2)) :
    cmp r1 r2 = 0 := by
  have hl2 : ∀ x ∈ l2, P x := fun x hx => hl x (hp.mem_iff.mpr hx)
  obtain ⟨m1, x1⟩ := preferred_maximal h l1 hl i1 r1 h1
  obtain ⟨m2, x2⟩ := preferred_maximal h l2 hl2 i2 r2 h2
  have r1in : r1 ∈ l1 := List.mem_of_getElem? m1
  have r2in : r2 ∈ l2 := List.mem_of_getElem? m2
  have a := x1 r2 (hp.mem_iff.mpr r2in)
  have b := x2 r1 (hp.mem_iff.mp r1in)
  have := h.antisymm r1 r2 (hl r1 r1in) (hl2 r2 r2in)
  omega

/-- `Preferred` (ordinary rule): maximal for every candidate list, nil entries included -/
theorem Preferred_maximal (l : List Cand) (i : Nat) (r : Cand)
    (hr : selectPreferred compareTips l = some (i, r)) :
    l[i]? = some r ∧ ∀ x ∈ l, 0 ≤ compareTips r x :=
  preferred_maximal compare_pre l (fun _ _ => trivial) i r hr

theorem Preferred_order_independent (l1 l2 : List Cand) (hp : l1.Perm l2) (i1 i2 : Nat) (r1 r2 : Cand)
    (h1 : selectPreferred compareTips l1 = some (i1, r1)) (h2 : selectPreferred compareTips l2 = some (i2, r2)) :
    compareTips r1 r2 = 0 :=
  preferred_order_independent compare_pre l1 l2 hp (fun _ _ => trivial) i1 i2 r1 r2 h1 h2

/-- Selection by the pairwise `CompareWithDensity` (what `PreferredWithDensity` did before /repo
    commit 2e714eb, and on a homogeneous set the order it still uses: `set_metric_is_pairwise`) over
    windowed tips: maximal, for every parameter set.  The Go function as it stands is
    `PreferredWithDensity_maximal`. -/
theorem PreferredWithDensity_maximal_windowed (p : Params) (l : List Cand) (hl : ∀ x ∈ l, allWindowed x)
    (i : Nat) (r : Cand) (hr : selectPreferred (compareWithDensity p) l = some (i, r)) :
    l[i]? = some r ∧ ∀ x ∈ l, 0 ≤ compareWithDensity p r x :=
  preferred_maximal (cwd_pre_windowed p) l hl i r hr

theorem PreferredWithDensity_maximal_simple (p : Params) (l : List Cand) (hl : ∀ x ∈ l, noneWindowed x)
    (i : Nat) (r : Cand) (hr : selectPreferred (compareWithDensity p) l = some (i, r)) :
    l[i]? = some r ∧ ∀ x ∈ l, 0 ≤ compareWithDensity p r x :=
  preferred_maximal (cwd_pre_simple p) l hl i r hr

theorem PreferredWithDensity_order_independent_windowed (p : Params) (l1 l2 : List Cand) (hp : l1.Perm l2)
    (hl : ∀ x ∈ l1, allWindowed x) (i1 i2 : Nat) (r1 r2 : Cand)
    (h1 : selectPreferred (compareWithDensity p) l1 = some (i1, r1))
    (h2 : selectPreferred (compareWithDensity p) l2 = some (i2, r2)) :
    compareWithDensity p r1 r2 = 0 :=
  preferred_order_independent (cwd_pre_windowed p) l1 l2 hp hl i1 i2 r1 r2 h1 h2

theorem PreferredWithDensity_order_independent_simple (p : Params) (l1 l2 : List Cand) (hp : l1.Perm l2)
    (hl : ∀ x ∈ l1, noneWindowed x) (i1 i2 : Nat) (r1 r2 : Cand)
    (h1 : selectPreferred (compareWithDensity p) l1 = some (i1, r1))
    (h2 : selectPreferred (compareWithDensity p) l2 = some (i2, r2)) :
    compareWithDensity p r1 r2 = 0 :=
  preferred_order_independent (cwd_pre_simple p) l1 l2 hp hl i1 i2 r1 r2 h1 h2

/-! ### PreferredWithDensity with one metric for the whole candidate set -/

/-- **`PreferredWithDensity` returns a maximal candidate for EVERY candidate list** —
    windowed, simple, mixed, nil entries, any parameters: no same-metric hypothesis. The order is the
    one the function itself uses: the comparison at the metric of the whole set. -/
theorem PreferredWithDensity_maximal (p : Params) (l : List Cand) (i : Nat) (r : Cand)
    (hr : preferredWithDensity p l = some (i, r)) :
    l[i]? = some r ∧ ∀ x ∈ l, 0 ≤ compareWithDensityMetric p (windowMetricFor p l) r x :=
  preferred_maximal (cwdm_pre p _) l (fun _ _ => trivial) i r hr

/-- **… whatever order they are given in**, again for every candidate list -/
theorem PreferredWithDensity_order_independent (p : Params) (l1 l2 : List Cand) (hp : l1.Perm l2)
    (i1 i2 : Nat) (r1 r2 : Cand)
    (h1 : preferredWithDensity p l1 = some (i1, r1)) (h2 : preferredWithDensity p l2 = some (i2, r2)) :
    compareWithDensityMetric p (windowMetricFor p l1) r1 r2 = 0 := by
  unfold preferredWithDensity at h1 h2
  rw [← windowMetricFor_perm p l1 l2 hp] at h2
  exact preferred_order_independent (cwdm_pre p _) l1 l2 hp (fun _ _ => trivial) i1 i2 r1 r2 h1 h2

/-- on a homogeneous set (all windowed, or none) the set's metric is every pair's metric, so the
    order used by `PreferredWithDensity` is the pairwise `CompareWithDensity` -/
theorem set_metric_is_pairwise (p : Params) (l : List Cand)
    (h : (∀ x ∈ l, allWindowed x) ∨ (∀ x ∈ l, noneWindowed x) ∨ p.window = 0) (a b : Cand)
    (ha : a ∈ l) (hb : b ∈ l) (hab : a.isSome ∧ b.isSome) :
    compareWithDensityMetric p (windowMetricFor p l) a b = compareWithDensity p a b := by
  rw [cwdm_eq_cwdU]
  refine (cwd_eq_cwdU_pair p a b _ fun x y hx hy => ?_).symm
  subst hx hy
  rcases h with h | h | h
  · have hx := h _ ha x rfl
    have hy := h _ hb y rfl
    have : l.all candWindowed = true := by
      rw [List.all_eq_true]; intro c hc
      cases c with
      | none => rfl
      | some t => exact h _ hc t rfl
    simp [usesCount, windowMetricFor, this, hx, hy]
  · have hx := h _ ha x rfl
    have : l.all candWindowed = false := by
      rw [List.all_eq_false]; exact ⟨some x, ha, by simp [candWindowed, hx]⟩
    simp [usesCount, windowMetricFor, this, hx]
  · simp [usesCount, windowMetricFor, h]

/-! ### the routing predicate, as translated from the Go source -/

theorem gen_isDeepFork_eq (k slot forkBN tipBN : Nat) (h1 : forkBN < 2 ^ 64) (h2 : tipBN < 2 ^ 64) :
    GV.Gen.GoLite.isDeepFork (k : Int) (slot : Int) (forkBN : Int) (tipBN : Int) = isDeepFork k forkBN tipBN := by
  unfold GV.Gen.GoLite.isDeepFork isDeepFork
  by_cases h : tipBN ≤ forkBN
  · have : (tipBN : Int) ≤ forkBN := by omega
    simp [h, this]
  · have : ¬ (tipBN : Int) ≤ forkBN := by omega
    simp only [this, decide_false, Bool.false_eq_true, ↓reduceIte, h]
    rw [GV.Proofs.GoLite.wrapU_of_lt (by omega) (by omega), ← Int.ofNat_sub (by omega)]
    simp only [gt_iff_lt, Int.ofNat_lt]

/-- a fork is deep exactly when adopting it rolls back more than k blocks -/
theorem isDeepFork_iff (k forkBN tipBN : Nat) :
    isDeepFork k forkBN tipBN = true ↔ forkBN < tipBN ∧ tipBN - forkBN > k := by
  unfold isDeepFork; split <;> simp <;> omega

/-! ### consensus/genesis -/

def gW (f : Frag) : Int := f.inWindow
def gT (f : Frag) : Int := f.total

theorem genesisCompare_eq_lex (a b : Frag) :
    genesisCompare a b = lexC (cmpOn gW) (lexC (cmpOn gT) fun _ _ => 0) a b := by
  simp only [lexC_cmpOn, genesisCompare, gW, gT, ne_eq, Int.natCast_inj, gt_iff_lt, Int.ofNat_lt]

/-- `GenesisSelector.Compare` is a total preorder (window count, then total length) -/
theorem genesisCompare_pre : Pre (fun _ : Frag => True) genesisCompare :=
  (Pre.lex (Pre.ofKey gW) (Pre.lex (Pre.ofKey gT) Pre.zero)).congr
    (fun a b _ _ => genesisCompare_eq_lex a b)

/-- `GenesisSelector.Preferred` returns a maximal fragment -/
theorem genesisPreferred_maximal (l : List Frag) (i : Nat) (r : Frag)
    (hr : genesisPreferred l = some (i, r)) : r ∈ l ∧ ∀ x ∈ l, 0 ≤ genesisCompare r x := by
  cases l with
  | nil => simp [genesisPreferred] at hr
  | cons c cs =>
    simp only [genesisPreferred, Option.some.injEq, Prod.mk.injEq] at hr
    obtain ⟨rfl, rfl⟩ := hr
    obtain ⟨_, hi, hmax⟩ := fold_indexed_maximal (step := genStep) (fun _ _ => rfl) genesisCompare_pre c cs
      (fun _ _ => trivial)
    exact ⟨List.mem_of_getElem? hi, hmax⟩

/-! ### the full statement, what holds, and the recorded finding -/

/-- The property as stated, for `CompareWithDensity` over arbitrary candidates. -/
def C41_full : Prop := ∀ p : Params, Pre (fun _ : Cand => True) (compareWithDensity p)

/-- What holds: the full statement on homogeneous candidate sets (and always
    when no window is configured). -/
theorem C41_partial (p : Params) :
    Pre allWindowed (compareWithDensity p) ∧ Pre noneWindowed (compareWithDensity p) ∧
    (p.window = 0 → Pre (fun _ : Cand => True) (compareWithDensity p)) :=
  ⟨cwd_pre_windowed p, cwd_pre_simple p, cwd_pre_nowindow p⟩

/-! Witness of the finding (class `mixed-metric`): with a window configured, two
    windowed tips and one simple tip are compared pairwise with two different
    metrics (window count between the windowed tips, legacy blocks/slots ratio as
    soon as one side is a simple tip) and form a preference cycle. -/
def wP : Params := { k := 1, window := 10, forkSlot := 0, forkBN := 0, tipBN := 5 }
def w1 : Tip := { bn := 7, vrf := [1], windowed := true, slots := [1, 2, 3, 1000], blocksAfter := 0, slotsAfter := 0 }
def w2 : Tip := { bn := 7, vrf := [1], windowed := true, slots := [1, 2], blocksAfter := 0, slotsAfter := 0 }
def wS : Tip := { bn := 7, vrf := [1], windowed := false, slots := [], blocksAfter := 1, slotsAfter := 2 }

theorem mixed_cycle_witness :
    compareWithDensity wP (some w1) (some w2) = 1 ∧
    compareWithDensity wP (some w2) (some wS) = 1 ∧
    compareWithDensity wP (some wS) (some w1) = 1 := by decide

theorem C41_witness : ¬ C41_full := by
  intro h
  have ht := (h wP).trans (some w1) (some w2) (some wS) trivial trivial trivial
  have hc := mixed_cycle_witness
  have ha := (h wP).antisymm (some wS) (some w1) trivial trivial
  have := ht (by omega) (by omega)
  omega

/-- on the witness, selecting with the PAIRWISE comparison (`PreferredWithDensity` before /repo commit
    2e714eb) depends on the order and is not maximal -/
theorem mixed_preferred_witness :
    selectPreferred (compareWithDensity wP) [some w1, some w2, some wS] = some (2, some wS) ∧
    selectPreferred (compareWithDensity wP) [some wS, some w1, some w2] = some (2, some w2) ∧
    compareWithDensity wP (some w2) (some wS) = 1 := by decide

/-- on the same witness `PreferredWithDensity` (one metric for the whole set, /repo commit 2e714eb)
    returns `w2` in both orders -/
theorem mixed_preferred_repaired :
    preferredWithDensity wP [some w1, some w2, some wS] = some (1, some w2) ∧
    preferredWithDensity wP [some wS, some w1, some w2] = some (2, some w2) := by decide

/-- Regenerated tie: `Compare`, `selectPreferred`, `BlocksInWindow`, both `Density` methods and the
    functions of fix 2e714eb (`windowMetricFor`, `compareDensityMetric`, `compareWithDensityMetric`,
    `CompareWithDensity` delegating at the pair's metric, `PreferredWithDensity` choosing ONE metric for
    the candidate set, `Preferred`) as re-extracted from the source on every run are, statement by
    statement, the ones the model mirrors.  One model function has another shape than its source:
    `compareWithDensity` (with `compareDensity`, `usesCount`) picks the pair's metric itself, as the Go
    function did before that fix; `cwd_is_pair_metric` proves it equal to the delegation listed here. -/
theorem source_as_modelled :
    GV.Gen.SrcG7.compare = [
  "if a == nil && b == nil { return 0 }",
  "if a == nil { return -1 }",
  "if b == nil { return 1 }",
  "if a.BlockNumber() != b.BlockNumber() { if a.BlockNumber() > b.BlockNumber() { return 1 } return -1 }",
  "aVRFBytes := a.VRFOutput()",
  "bVRFBytes := b.VRFOutput()",
  "if len(aVRFBytes) == 0 && len(bVRFBytes) == 0 { return 0 }",
  "if len(aVRFBytes) == 0 { return -1 }",
  "if len(bVRFBytes) == 0 { return 1 }",
  "aVRF := new(big.Int).SetBytes(aVRFBytes)",
  "bVRF := new(big.Int).SetBytes(bVRFBytes)",
  "cmp := aVRF.Cmp(bVRF)",
  "if cmp < 0 { return 1 }",
  "if cmp > 0 { return -1 }",
  "return 0"] ∧
    GV.Gen.SrcG7.selectPreferred = [
  "if len(candidates) == 0 { return nil }",
  "preferred := candidates[0]",
  "for i := 1; i < len(candidates); i++ { if compare(candidates[i], preferred) > 0 { preferred = candidates[i] } }",
  "return preferred"] ∧
    GV.Gen.SrcG7.blocksInWindow = [
  "if windowSlots == 0 { return 0 }",
  "var count uint64",
  "for _, blockSlot := range w.blockSlots { if blockSlot > forkSlot && blockSlot-forkSlot <= windowSlots { count++ } }",
  "return count"] ∧
    GV.Gen.SrcG7.windowMetricFor = [
  "if p.GenesisWindowSlots == 0 { return false }",
  "for _, t := range tips { if t == nil { continue } if _, ok := t.(WindowBlockCounter); !ok { return false } }",
  "return true"] ∧
    GV.Gen.SrcG7.compareDensityMetric = [
  "if useWindow { aBlocks := a.(WindowBlockCounter).BlocksInWindow(fork.Slot, p.GenesisWindowSlots) bBlocks := b.(WindowBlockCounter).BlocksInWindow(fork.Slot, p.GenesisWindowSlots) if aBlocks > bBlocks { return 1 } if bBlocks > aBlocks { return -1 } return 0 }",
  "p.warnFallbackDensity.Do(func() { slog.Warn(\"deep-fork comparison using legacy density ratio; configure a \"+\"genesis window and implement WindowBlockCounter for the \"+\"canonical Genesis metric\", \"securityParam\", p.SecurityParam, \"genesisWindowSlots\", p.GenesisWindowSlots) })",
  "aDensity := a.Density(fork.Slot)",
  "bDensity := b.Density(fork.Slot)",
  "if aDensity > bDensity { return 1 }",
  "if bDensity > aDensity { return -1 }",
  "return 0"] ∧
    GV.Gen.SrcG7.compareWithDensityMetric = [
  "if a == nil && b == nil { return 0 }",
  "if a == nil { return -1 }",
  "if b == nil { return 1 }",
  "if !p.IsDeepFork(fork, tipBlockNumber) { return p.Compare(a, b) }",
  "if result := p.compareDensityMetric(a, b, fork, useWindow); result != 0 { return result }",
  "return p.Compare(a, b)"] ∧
    GV.Gen.SrcG7.compareWithDensity = [
  "return p.compareWithDensityMetric(a, b, fork, tipBlockNumber, p.windowMetricFor(a, b))"] ∧
    GV.Gen.SrcG7.preferredWithDensity = [
  "useWindow := p.windowMetricFor(candidates...)",
  "return p.selectPreferred(candidates, func(a, b ChainTip) int { return p.compareWithDensityMetric(a, b, fork, tipBlockNumber, useWindow) })"] ∧
    GV.Gen.SrcG7.preferred = [
  "return p.selectPreferred(candidates, p.Compare)"] ∧
    GV.Gen.SrcG7.simpleDensity = [
  "if s.slotsAfterFork == 0 { return 0 }",
  "return float64(s.blocksAfterFork) / float64(s.slotsAfterFork)"] ∧
    GV.Gen.SrcG7.windowedDensity = [
  "var blocks, maxSlot uint64",
  "for _, blockSlot := range w.blockSlots { if blockSlot <= forkSlot { continue } blocks++ if blockSlot > maxSlot { maxSlot = blockSlot } }",
  "if blocks == 0 { return 0 }",
  "return float64(blocks) / float64(maxSlot-forkSlot)"] :=
  ⟨rfl, rfl, rfl, rfl, rfl, rfl, rfl, rfl, rfl, rfl, rfl⟩

/-! non-vacuity -/
example : selectPreferred compareTips [some wS, none, some { wS with bn := 9 }, some w1] =
    some (2, some { wS with bn := 9 }) := by decide
example : selectPreferred (compareWithDensity wP) [some w2, some w1] = some (1, some w1) := by decide
example : allWindowed (some w1) := by intro t h; cases h; rfl
example : noneWindowed (some wS) := by intro t h; cases h; rfl
example : deep wP = true := by decide
example : compareTips (some w1) (some { w1 with vrf := [0, 0] }) = -1 := by decide

end GV.Props.C41
