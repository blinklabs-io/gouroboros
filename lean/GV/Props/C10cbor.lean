import GV.Proofs.CborBytes
import GV.Proofs.Reassembly
import GV.Props.C10
/-!
C10 for REAL CBOR: the three decoder laws that `GV.Props.C10` assumes
(`GV.Proofs.Reassembly.Laws`) are theorems of the byte-layer CBOR well-formedness
machine (`GV.Cbor.wfItem`: every header form, indefinite lengths, non-minimal integers,
nested containers, tags, chunked strings). Hence reassembly is the identity for every
sequence of well-formed CBOR items and every segmentation — no hypothesis on the
decoder is left.
-/
namespace GV.Props.C10cbor
open GV.Model.Reassembly GV.Proofs.Reassembly

/-- `GV.Cbor.wfItem` with its result translated to the reassembly model's `Res`. -/
def wfItem' (b : Bytes) : Res :=
  match GV.Cbor.wfItem b with
  | .ok n => .ok n
  | .needMore => .needMore
  | .bad => .bad

theorem wfItem'_ok {b : Bytes} {n : Nat} : wfItem' b = .ok n ↔ GV.Cbor.wfItem b = .ok n := by
  unfold wfItem'
  cases GV.Cbor.wfItem b <;> simp

/-- **The CBOR well-formedness machine satisfies the reassembly laws.** -/
theorem wfItem_laws : Laws wfItem' where
  consumes_le := by
    intro b n h
    exact (GV.Cbor.wf_consumes_le (wfItem'_ok.mp h)).2
  unique := by
    intro b n r h
    exact wfItem'_ok.mpr (GV.Cbor.wf_unique (wfItem'_ok.mp h) r)
  pref := by
    intro b n h k hk
    unfold wfItem'
    rw [GV.Cbor.wf_prefix (wfItem'_ok.mp h) hk]

def IsCborItem (m : Bytes) : Prop := GV.Cbor.wfItem m = .ok m.length

theorem isItem_of_cbor {m : Bytes} (h : IsCborItem m) : IsItem wfItem' m :=
  ⟨wfItem'_ok.mpr h, (GV.Cbor.wf_consumes_le h).1⟩

/-- **Reassembly is the identity for real CBOR.** For every sequence of well-formed CBOR items
    (each at most `maxReadBufferSize` bytes) and EVERY way of cutting their concatenation
    into segments, the read loop hands over exactly those items, byte-identical, in order,
    with no error and an empty buffer. -/
theorem reassemble_id_cbor (msgs segs : List Bytes)
    (hitem : ∀ m ∈ msgs, IsCborItem m) (hmax : ∀ m ∈ msgs, m.length ≤ maxReadBuffer)
    (hcut : segs.flatten = msgs.flatten) :
    (readAll wfItem' segs).msgs = msgs ∧ (readAll wfItem' segs).err = none ∧
    (readAll wfItem' segs).buf = [] :=
  GV.Props.C10.reassemble_id wfItem' wfItem_laws msgs segs
    (fun m hm => isItem_of_cbor (hitem m hm)) hmax hcut

/-- Non-vacuity: an indefinite-length array with a non-minimal integer and a definite map are items. -/
example : IsCborItem [0x9f, 0x18, 0x01, 0x82, 0x01, 0x02, 0xff] ∧ IsCborItem [0xa1, 0x01, 0x41, 0x00] := by
  unfold IsCborItem; decide

end GV.Props.C10cbor
