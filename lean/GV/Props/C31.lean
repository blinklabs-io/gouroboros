import GV.Model.ScriptDataHash
import GV.Gen.RuleLists
import GV.Gen.ShortLex
/-!
C31 — The script data hash binds redeemers, datums and cost models.

Blake2b-256 is an abstract digest `h : Bytes → D`; the theorems say what the rule compares, not
that the hash is collision resistant (symbolic model).
-/
namespace GV.Props.C31
open GV.Model.ScriptDataHash GV.Lib.CborLite

/-- The rule passes only if: nothing to bind and no hash declared, or the declared hash is the
    digest of  redeemers ++ datums(if any) ++ language views. -/
theorem rule_ok_iff {D : Type} [DecidableEq D] (h : Bytes → D) (cm : Nat → Option (List Int)) (t : Tx D) :
    rule h cm t = .ok ↔
      (t.nRedeemers = 0 ∧ t.nDatums = 0 ∧ t.declared = none) ∨
      (¬ (t.nRedeemers = 0 ∧ t.nDatums = 0) ∧ (∀ v ∈ t.used, (cm v).isSome) ∧
        ∃ d lv, t.declared = some d ∧ encodeLangViews t.used cm = .ok lv ∧ d = h (preimage t lv)) := by
  have hany : t.used.any (fun v => (cm v).isNone) = true ↔ ¬ ∀ v ∈ t.used, (cm v).isSome := by
    simp [Option.isSome_iff_ne_none]
  unfold rule
  by_cases h0 : t.nRedeemers = 0 ∧ t.nDatums = 0
  · rw [if_pos h0]; cases t.declared <;> simp [h0]
  · rw [if_neg h0]
    cases t.declared with
    | none => simpa using h0
    | some d =>
      simp only
      by_cases hc : ∀ v ∈ t.used, (cm v).isSome
      · rw [if_neg (fun h => hany.mp h hc)]
        cases encodeLangViews t.used cm with
        | error e => simp
        | ok lv =>
          by_cases hd : d = h (preimage t lv)
          · -- `.ok`; of the right side only the cost models remain
            simp [h0, hd]
            exact hc
          · -- `.mismatch`
            simp [h0, hd]
      · rw [if_pos (hany.mpr hc)]; simp [hc]

/-- "A declared hash without redeemers or datums is rejected". -/
theorem extraneous_rejected {D : Type} [DecidableEq D] (h : Bytes → D) (cm : Nat → Option (List Int))
    (t : Tx D) (h0 : t.nRedeemers = 0 ∧ t.nDatums = 0) (d : D) (hd : t.declared = some d) :
    rule h cm t = .extraneous := by
  unfold rule; simp [h0, hd]

/-- "…as is a missing one when they are present". -/
theorem missing_rejected {D : Type} [DecidableEq D] (h : Bytes → D) (cm : Nat → Option (List Int))
    (t : Tx D) (h0 : ¬ (t.nRedeemers = 0 ∧ t.nDatums = 0)) (hd : t.declared = none) :
    rule h cm t = .missing := by
  unfold rule; simp [h0, hd]

/-- Under an injective digest (ideal binding) the accepted hash determines the bound bytes:
    two transactions accepted with the same declared hash have the same pre-image. -/
theorem binding {D : Type} [DecidableEq D] (h : Bytes → D) (hinj : Function.Injective h)
    (cm : Nat → Option (List Int)) (t1 t2 : Tx D) (d : D)
    (hd1 : t1.declared = some d) (hd2 : t2.declared = some d)
    (ha1 : rule h cm t1 = .ok) (ha2 : rule h cm t2 = .ok) :
    ∃ lv1 lv2, encodeLangViews t1.used cm = .ok lv1 ∧ encodeLangViews t2.used cm = .ok lv2 ∧
      preimage t1 lv1 = preimage t2 lv2 := by
  rw [rule_ok_iff] at ha1 ha2
  rcases ha1 with ⟨_, _, hn⟩ | ⟨_, _, d1, lv1, h1, e1, q1⟩
  · rw [hn] at hd1; cases hd1
  rcases ha2 with ⟨_, _, hn⟩ | ⟨_, _, d2, lv2, h2, e2, q2⟩
  · rw [hn] at hd2; cases hd2
  rw [hd1] at h1; rw [hd2] at h2; cases h1; cases h2
  exact ⟨lv1, lv2, e1, e2, hinj (q1.symm.trans q2)⟩

/-- non-vacuity of `binding`'s hypothesis: the identity digest is injective -/
example : Function.Injective (fun b : Bytes => b) := fun _ _ h => h

/-- all nodup lists over {0,1,2,3}: every iteration order of every subset of the four languages -/
def allOrders : List (List Nat) :=
  let perms : List Nat → List (List Nat) := fun l =>
    l.foldr (fun x acc => acc.flatMap (fun p => (List.range (p.length + 1)).map (fun i => p.take i ++ [x] ++ p.drop i))) [[]]
  let rec subl : List Nat → List (List Nat)
    | [] => [[]]
    | x :: r => subl r ++ (subl r).map (x :: ·)
  (subl [0, 1, 2, 3]).flatMap perms

example : allOrders.length = 65 := by decide

/-- insertion sort of version numbers by their tags (the sort of `EncodeLangViews`, keys only) -/
def insertV (x : Nat) : List Nat → List Nat
  | [] => [x]
  | y :: r => if shortLexLt (tagOf x) (tagOf y) then x :: y :: r else y :: insertV x r

def sortV : List Nat → List Nat
  | [] => []
  | x :: r => insertV x (sortV r)

theorem insertView_map (g : Nat → Bytes) (x : Nat) (l : List Nat) :
    insertView (tagOf x, g x) (l.map (fun v => (tagOf v, g v))) =
      (insertV x l).map (fun v => (tagOf v, g v)) := by
  induction l with
  | nil => rfl
  | cons y r ih =>
    simp only [List.map_cons, insertView, insertV]
    split
    · rfl
    · simp only [List.map_cons, ih]

theorem sortViews_map (g : Nat → Bytes) (l : List Nat) :
    sortViews (l.map (fun v => (tagOf v, g v))) = (sortV l).map (fun v => (tagOf v, g v)) := by
  induction l with
  | nil => rfl
  | cons x r ih => simp only [List.map_cons, sortViews, sortV, ih, insertView_map]

theorem sortV_canonical : ∀ used ∈ allOrders, sortV used = [1, 2, 3, 0].filter (fun v => used.contains v) := by
  decide

/-- The sorted key order is the canonical one (01, 02, 03, 4100) for every subset of languages and
    every iteration order of the Go map — checked on the complete finite domain (65 lists). -/
theorem key_order_canonical :
    ∀ used ∈ allOrders,
      (sortViews (used.map (fun v => (tagOf v, ([] : Bytes))))).map (·.1) =
        ([1, 2, 3, 0].filter (fun v => used.contains v)).map tagOf := by
  intro used hu
  rw [sortViews_map (fun _ => []), sortV_canonical used hu, List.map_map]
  rfl

theorem allOrders_cons : ∀ l ∈ allOrders, ∀ a, a < 4 → a ∉ l → a :: l ∈ allOrders := by
  decide +kernel

theorem allOrders_complete (used : List Nat) (hn : used.Nodup) (hb : ∀ v ∈ used, v < 4) :
    used ∈ allOrders := by
  induction used with
  | nil => decide
  | cons a r ih =>
    rw [List.nodup_cons] at hn
    exact allOrders_cons r (ih hn.2 (fun v hv => hb v (List.mem_cons_of_mem _ hv))) a
      (hb a List.mem_cons_self) hn.1

theorem mapM_eq_pure {m : Type → Type} [Monad m] [LawfulMonad m] {α β : Type} {f : α → m β}
    {g : α → β} : ∀ l : List α, (∀ x ∈ l, f x = pure (g x)) → l.mapM f = pure (l.map g)
  | [], _ => rfl
  | x :: r, h => by
    rw [List.mapM_cons, h x List.mem_cons_self,
      mapM_eq_pure r fun y hy => h y (List.mem_cons_of_mem _ hy)]
    simp

theorem views_ok (cm : Nat → Option (List Int)) (used : List Nat)
    (hb : ∀ v ∈ used, v < 4) (hc : ∀ v ∈ used, (cm v).isSome) :
    views used cm = .ok (used.map (fun v => (tagOf v, paramsOf v ((cm v).getD [])))) :=
  mapM_eq_pure used fun v hv => by
    obtain ⟨m, hm⟩ := Option.isSome_iff_exists.mp (hc v hv)
    have h3 : ¬ v > 3 := Nat.not_lt.mpr (Nat.le_of_lt_succ (hb v hv))
    simp only [h3, ↓reduceIte, hm, Option.getD_some]
    rfl

theorem mapM_params (cm : Nat → Option (List Int)) (l : List Nat) (h : ∀ v ∈ l, (cm v).isSome) :
    l.mapM (fun v => (cm v).map (fun m => tagOf v ++ paramsOf v m)) =
      some (l.map (fun v => tagOf v ++ paramsOf v ((cm v).getD []))) :=
  mapM_eq_pure l fun v hv => by
    obtain ⟨m, hm⟩ := Option.isSome_iff_exists.mp (h v hv)
    rw [hm]; rfl

/-- **The language-views encoding is the ledger's, byte for byte**: for every duplicate-free list of
    supported versions in any iteration order and all cost-model contents, `EncodeLangViews` returns
    exactly the canonical map — keys 01, 02, 03, 4100 in that order, PlutusV1's value a byte string
    wrapping an indefinite list, the others a definite list. -/
theorem langViews_spec (used : List Nat) (cm : Nat → Option (List Int)) (hn : used.Nodup)
    (hb : ∀ v ∈ used, v < 4) (hc : ∀ v ∈ used, (cm v).isSome) :
    ∃ b, encodeLangViews used cm = .ok b ∧ specLangViews used cm = some b := by
  have hsort := sortV_canonical used (allOrders_complete used hn hb)
  have hm := mapM_params cm ([1, 2, 3, 0].filter (fun v => used.contains v))
    fun v hv => hc v (by simpa using (List.mem_filter.mp hv).2)
  have hol : ([1, 2, 3, 0].filter (fun v => used.contains v)).length < 24 :=
    Nat.lt_of_le_of_lt (List.length_filter_le _ _) (by decide)
  unfold specLangViews
  simp only [hm]
  refine ⟨_, ?_, rfl⟩
  unfold encodeLangViews
  rw [views_ok cm used hb hc]
  simp only
  rw [sortViews_map (fun v => paramsOf v ((cm v).getD [])) used, hsort]
  simp only [List.length_map, hol, ↓reduceIte, List.flatMap_def, List.map_map]
  rfl

/-- Non-vacuity: the hypotheses of `langViews_spec` for all four languages in a scrambled order. -/
example : [2, 0, 3, 1].Nodup ∧ (∀ v ∈ [2, 0, 3, 1], v < 4) := by decide

/-- PlutusV1's double bagging, PlutusV2's plain list: the exact bytes for a concrete cost model. -/
example : (match encodeLangViews [0, 1] (fun v => if v = 0 then some [1, -1] else if v = 1 then some [24] else none) with
    | .ok b => b == [0xa2, 0x01, 0x81, 0x18, 0x18, 0x41, 0x00, 0x44, 0x9f, 0x01, 0x20, 0xff]
    | .error _ => false) = true := by decide

theorem gen_go_lt : ∀ (a b : Bytes), GV.Gen.ShortLex.go a b < 0 ↔ shortLexLt.lexLt a b = true
  | [], _ => by simp [GV.Gen.ShortLex.go, shortLexLt.lexLt]
  | _ :: _, [] => by simp [GV.Gen.ShortLex.go, shortLexLt.lexLt]
  | x :: xs, y :: ys => by
    simp only [GV.Gen.ShortLex.go, shortLexLt.lexLt, UInt8.lt_iff_toNat_lt, gt_iff_lt]
    by_cases h1 : x.toNat < y.toNat
    · simp [h1]
    · by_cases h2 : y.toNat < x.toNat
      · simp [h1, h2]
      · simp only [h1, h2, ↓reduceIte]; exact gen_go_lt xs ys

/-- Regenerated tie: `common.ShortLex`, translated from the Go source on every run (comparison
    operators and returned constants are the source's), orders exactly as the model's `shortLexLt`
    used by the language-views sort: `ShortLex(a, b) < 0 ↔ shortLexLt a b`. A `<` → `<=` edit or a
    swapped return value in the source breaks this obligation. -/
theorem gen_shortLex (a b : Bytes) : GV.Gen.ShortLex.shortLex a b < 0 ↔ shortLexLt a b = true := by
  simp only [GV.Gen.ShortLex.shortLex, shortLexLt, gt_iff_lt]
  by_cases h1 : a.length < b.length
  · simp [h1]
  · by_cases h2 : b.length < a.length
    · simp [h1, h2]
    · simp only [h1, h2, ↓reduceIte]; exact gen_go_lt a b

/-- Regenerated tie: the rule is in the Alonzo..Dijkstra rule lists of the source as it is now. -/
theorem rules_listed :
    ∀ l ∈ [GV.Gen.RuleLists.alonzo, GV.Gen.RuleLists.babbage, GV.Gen.RuleLists.conway,
           GV.Gen.RuleLists.dijkstra],
      "UtxoValidateScriptDataHash" ∈ l := by
  -- membership by finding the name; no two names are ever compared for inequality
  simp only [List.forall_mem_cons, List.not_mem_nil, false_imp_iff, implies_true, and_true]
  simp only [GV.Gen.RuleLists.alonzo, GV.Gen.RuleLists.babbage, GV.Gen.RuleLists.conway,
    GV.Gen.RuleLists.dijkstra, List.mem_cons, true_or, or_true, and_self]

end GV.Props.C31
