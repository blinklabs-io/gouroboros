import GV.Model.Reassembly
/-
  For C10.  A self-delimiting item decoder is one that satisfies `Laws`.  For such a decoder and a
  stream of items, draining the buffer after each segment gives what draining the whole stream at
  once gives (`fold_eq_drain`), and that is the items themselves (`drain_items`; `drain_prefix`: any
  prefix of the stream yields the first of them and no error).
-/
namespace GV.Proofs.Reassembly
open GV.Model.Reassembly

/-- The three laws of a self-delimiting item decoder (for CBOR: `wf_consumes_le`,
    `wf_unique`, `wf_prefix` of DESIGN.md §3.1). -/
structure Laws (wf : Bytes → Res) : Prop where
  consumes_le : ∀ b n, wf b = .ok n → n ≤ b.length
  unique : ∀ b n r, wf b = .ok n → wf (b.take n ++ r) = .ok n
  pref : ∀ b n, wf b = .ok n → ∀ k, k < n → wf (b.take k) = .needMore

def IsItem (wf : Bytes → Res) (m : Bytes) : Prop := wf m = .ok m.length ∧ 0 < m.length

theorem item_append {wf} (L : Laws wf) (m r : Bytes) (h : IsItem wf m) :
    wf (m ++ r) = .ok m.length := by
  have := L.unique m m.length r h.1
  simpa using this

theorem item_prefix {wf} (L : Laws wf) (p : Bytes) (c : UInt8) (q : Bytes)
    (h : IsItem wf (p ++ c :: q)) : wf p = .needMore := by
  have := L.pref (p ++ c :: q) (p ++ c :: q).length h.1 p.length (by simp)
  simpa using this

theorem drain_nil (wf) (out : List Bytes) : drain wf [] out = ([], out, none) := by
  rw [drain]; simp

theorem drain_ok (wf) (buf : Bytes) (out : List Bytes) (n : Nat)
    (h : wf buf = .ok n) (h0 : 0 < n) (hle : n ≤ buf.length) :
    drain wf buf out = drain wf (buf.drop n) (buf.take n :: out) := by
  rw [drain]
  have : buf.isEmpty = false := by cases buf with | nil => simp at hle; omega | cons _ _ => rfl
  have hg : ¬ (n = 0 ∨ n > buf.length) := by omega
  simp [this, h, hg]

theorem drain_needMore (wf) (buf : Bytes) (out : List Bytes) (h : wf buf = .needMore) :
    drain wf buf out = (buf, out, if buf.length > maxReadBuffer then some .tooBig else none) := by
  rw [drain]
  cases buf with
  | nil => rfl
  | cons x t => simp only [List.isEmpty_cons, Bool.false_eq_true, ↓reduceIte, h]; split <;> rfl

theorem drain_items {wf} (L : Laws wf) (ms : List Bytes) (hms : ∀ m ∈ ms, IsItem wf m) (p : Bytes) :
    ∀ (out : List Bytes), drain wf (ms.flatten ++ p) out = drain wf p (ms.reverse ++ out) := by
  induction ms with
  | nil => intro out; rfl
  | cons m t ih =>
    intro out
    have hm := hms m (by simp)
    simp only [List.flatten_cons, List.append_assoc]
    rw [drain_ok wf _ out m.length (item_append L m _ hm) hm.2 (by simp),
      List.drop_left, List.take_left, ih (fun x hx => hms x (by simp [hx])) (m :: out)]
    simp

theorem drain_prefix {wf} (L : Laws wf) (msgs : List Bytes)
    (hitem : ∀ m ∈ msgs, IsItem wf m) (hmax : ∀ m ∈ msgs, m.length ≤ maxReadBuffer)
    (b r : Bytes) (h : b ++ r = msgs.flatten) :
    ∃ ms1 ms2 p, msgs = ms1 ++ ms2 ∧ b = ms1.flatten ++ p ∧ drain wf b [] = (p, ms1.reverse, none) := by
  rcases List.append_eq_flatten_iff.mp h with ⟨ms1, ms2, e, rfl, _⟩ | ⟨ms1, p, c, q, t, e, rfl, _⟩
  · -- `b` ends at a message boundary
    refine ⟨ms1, ms2, [], e, by simp, ?_⟩
    simpa [drain_nil] using drain_items L ms1 (fun m hm => hitem m (by simp [e, hm])) [] []
  · -- `b` ends inside the message `p ++ c :: q`
    have hmem : p ++ c :: q ∈ msgs := by simp [e]
    have hlen := hmax _ hmem
    refine ⟨ms1, _, p, e, rfl, ?_⟩
    rw [drain_items L ms1 (fun m hm => hitem m (by simp [e, hm])) p [],
      drain_needMore wf p _ (item_prefix L p c q (hitem _ hmem)),
      if_neg (by simp at hlen; omega), List.append_nil]

def toState (t : Bytes × List Bytes × Option RErr) : RState := ⟨t.1, t.2.1, t.2.2⟩

theorem fold_eq_drain {wf} (L : Laws wf) (msgs : List Bytes)
    (hitem : ∀ m ∈ msgs, IsItem wf m) (hmax : ∀ m ∈ msgs, m.length ≤ maxReadBuffer)
    (segs : List Bytes) : ∀ (pre r : Bytes), pre ++ segs.flatten ++ r = msgs.flatten →
    segs.foldl (recvSeg wf) (toState (drain wf pre [])) = toState (drain wf (pre ++ segs.flatten) []) := by
  induction segs with
  | nil => intro pre _ _; simp
  | cons s t ih =>
    intro pre r h
    -- `pre` left `p` waiting behind the messages `ms1`; `p ++ s` is drained behind them again
    obtain ⟨ms1, ms2, p, e, rfl, hd⟩ := drain_prefix L msgs hitem hmax pre (s ++ t.flatten ++ r)
      (by simpa using h)
    have hstep : recvSeg wf (toState (drain wf (ms1.flatten ++ p) [])) s =
        toState (drain wf (ms1.flatten ++ p ++ s) []) := by
      rw [hd, List.append_assoc, drain_items L ms1 (fun m hm => hitem m (by simp [e, hm])) (p ++ s) []]
      simp [recvSeg, toState]
    rw [List.foldl_cons, hstep, ih _ r (by simpa using h)]
    simp

theorem readAll_eq_drain {wf} (L : Laws wf) (msgs segs : List Bytes) (r : Bytes)
    (hitem : ∀ m ∈ msgs, IsItem wf m) (hmax : ∀ m ∈ msgs, m.length ≤ maxReadBuffer)
    (hcut : segs.flatten ++ r = msgs.flatten) :
    readAll wf segs = toState (drain wf segs.flatten []) := by
  have h := fold_eq_drain L msgs hitem hmax segs [] r hcut
  rwa [drain_nil] at h

/-! ### Send side -/

theorem chunkAux_spec (n : Nat) (hn : 0 < n) (fuel : Nat) (b : Bytes) (h : b.length ≤ fuel) :
    (chunkAux n fuel b).flatten = b ∧ ∀ s ∈ chunkAux n fuel b, 0 < s.length ∧ s.length ≤ n := by
  fun_induction chunkAux n fuel b with
  | case1 b =>                 -- fuel 0: `b` is empty by `h`
    simp [List.eq_nil_of_length_eq_zero (Nat.le_zero.mp h)]
  | case2 fuel b he =>         -- `b` empty: no chunk
    simp_all
  | case3 fuel b he hl =>      -- `b` fits in one chunk, `[b]`
    simp_all [List.length_pos_iff]
  | case4 fuel b he hl ih =>   -- longer than `n`: take `n` bytes and recurse on the rest
    have ⟨h1, h2⟩ := ih (by simp only [List.length_drop]; omega)
    refine ⟨by simp [h1], fun s hs => ?_⟩
    rcases List.mem_cons.mp hs with rfl | hs
    · simp only [List.length_take]; omega
    · exact h2 s hs

theorem sendSegs_flatten (batches : List (List Bytes)) :
    (sendSegs batches).flatten = batches.flatten.flatten := by
  induction batches with
  | nil => rfl
  | cons b t ih =>
    have hpos : 0 < maxPayload := by decide
    simp only [sendSegs, List.flatMap_cons, List.flatten_append, List.flatten_cons] at *
    rw [ih]
    unfold chunk
    rw [(chunkAux_spec maxPayload hpos _ _ (Nat.le_refl _)).1]

theorem sendSegs_bounds (batches : List (List Bytes)) :
    ∀ s ∈ sendSegs batches, 0 < s.length ∧ s.length ≤ maxPayload := by
  intro s hs
  simp only [sendSegs, List.mem_flatMap] at hs
  obtain ⟨b, _, hs⟩ := hs
  exact (chunkAux_spec maxPayload (by decide) _ _ (Nat.le_refl _)).2 s hs

end GV.Proofs.Reassembly
