import GV.Model.Validity
import GV.Gen.RuleLists
import GV.Gen.G1Rules
/-!
C26 — Transactions are accepted only inside their validity interval.

From Allegra on, validation accepts a transaction at slot s only if s is at or
after its validity start (when present) and strictly before its
invalid-hereafter bound (when present). In Shelley it accepts only if s does
not exceed the time-to-live.
-/
namespace GV.Props.C26
open GV.Model.Validity

/-- Full statement: whatever the rule accepts lies inside the interval. -/
def C26_full : Prop := ∀ t : Tx, ok t = true → inInterval t = true

/-- The full statement restricted to one input. -/
def C26_full_on (t : Tx) : Prop := ok t = true → inInterval t = true
instance (t : Tx) : Decidable (C26_full_on t) := by unfold C26_full_on; infer_instance

/-- Allegra..Dijkstra: the rule is *exactly* the interval test, for all slots and
    bounds, except that an explicit invalid-hereafter 0 is read as absent. -/
theorem allegraPlus_ok_iff (t : Tx) (he : t.shelley = false) (hz : t.ttl ≠ some 0) :
    ok t = true ↔
      (∀ s, t.start = some s → s ≤ t.slot) ∧ (∀ e, t.ttl = some e → t.slot < e) := by
  cases hs : t.start <;> cases ht : t.ttl <;>
    simp [ok, allegraOk, startV, ttlV, he, hs, ht] at hz ⊢ <;> omega

/-- Shelley: with a TTL present (and not the conflated value 0 at a later slot)
    the rule is exactly `slot ≤ ttl`. -/
theorem shelley_ok_iff (t : Tx) (he : t.shelley = true) (e : Nat) (ht : t.ttl = some e)
    (hz : e ≠ 0 ∨ t.slot = 0) :
    ok t = true ↔ t.slot ≤ e := by
  simp [ok, shelleyOk, ttlV, he, ht]
  omega

/-- The part of the full statement that holds: outside the zero-TTL class every
    accepted transaction is inside its interval (all eras). -/
theorem C26_partial (t : Tx) (hz : zeroTtl t = false) : C26_full_on t := by
  obtain ⟨sh, slot, start, ttl, vld⟩ := t
  unfold C26_full_on
  cases sh <;> cases start <;> cases ttl <;>
    simp [zeroTtl, ok, shelleyOk, allegraOk, inInterval, startV, ttlV] at hz ⊢ <;> omega

/-- Conversely the rule rejects nothing the ledger rule admits (no over-rejection),
    in every era and for every input including the zero-TTL class. -/
theorem no_over_rejection (t : Tx) : inInterval t = true → ok t = true := by
  obtain ⟨sh, slot, start, ttl, vld⟩ := t
  cases sh <;> cases start <;> cases ttl <;>
    simp [ok, shelleyOk, allegraOk, inInterval, startV, ttlV] <;> omega

/-- Recorded finding (class `zero-ttl`): invalid-hereafter 0 admits no slot at all,
    yet the rule accepts, because 0 is indistinguishable from "absent". -/
theorem C26_witness :
    ¬ C26_full_on { shelley := false, slot := 10, start := none, ttl := some 0 } := by
  decide

theorem C26_witness_shelley :
    ¬ C26_full_on { shelley := true, slot := 10, start := none, ttl := some 0 } := by
  decide

theorem C26_full_fails : ¬ C26_full := fun h =>
  C26_witness (h { shelley := false, slot := 10, start := none, ttl := some 0 })

/-- Regenerated tie (R): the guard functions translated from the Go source on this
    run compute the model's functions, for all slots and accessor values. A changed
    comparison (`<` ↔ `<=`), a dropped bound or a new special case breaks this. -/
theorem gen_allegra_eq (slot start ttl : Nat) :
    GV.Gen.G1Rules.allegraOutsideValidityInterval slot ttl start =
      allegraOk { shelley := false, slot := slot, start := some start, ttl := some ttl } := by
  simp [GV.Gen.G1Rules.allegraOutsideValidityInterval, allegraOk, startV, ttlV]

theorem gen_shelley_eq (slot ttl : Nat) :
    GV.Gen.G1Rules.shelleyTimeToLive slot ttl =
      shelleyOk { shelley := true, slot := slot, start := none, ttl := some ttl } := by
  simp [GV.Gen.G1Rules.shelleyTimeToLive, shelleyOk, ttlV]

/-- The accessor view makes `none` and `some 0` the same input of the rule. -/
theorem absent_is_zero (sh : Bool) (slot : Nat) :
    ok { shelley := sh, slot := slot, start := none, ttl := none } =
      ok { shelley := sh, slot := slot, start := some 0, ttl := some 0 } := by
  cases sh <;> simp [ok, shelleyOk, allegraOk, startV, ttlV]

/-- `ok` and `inInterval` do not read the `valid` field (`IsValid`): the interval check is modelled
    as a phase-1 check.  True by `rfl`: it records how the model is written, not what the Go rule
    reads. -/
theorem validity_flag_irrelevant (t : Tx) (v : Bool) :
    ok { t with valid := v } = ok t ∧ inInterval { t with valid := v } = inInterval t :=
  ⟨rfl, rfl⟩

/-- Regenerated tie (R): the rule is an entry of every era's rule list as it stands
    in the repository now, and Mary..Conway forward to Allegra's function. -/
theorem rules_listed :
    "UtxoValidateTimeToLive" ∈ GV.Gen.RuleLists.shelley ∧
    (∀ l ∈ [GV.Gen.RuleLists.allegra, GV.Gen.RuleLists.mary, GV.Gen.RuleLists.alonzo,
            GV.Gen.RuleLists.babbage, GV.Gen.RuleLists.conway],
      "UtxoValidateOutsideValidityIntervalUtxo" ∈ l) ∧
    "conway.UtxoValidateOutsideValidityIntervalUtxo" ∈ GV.Gen.RuleLists.dijkstra ∧
    GV.Gen.G1Rules.validityDelegation =
      [("allegra", "self"),
       ("mary", "allegra.UtxoValidateOutsideValidityIntervalUtxo"),
       ("alonzo", "allegra.UtxoValidateOutsideValidityIntervalUtxo"),
       ("babbage", "allegra.UtxoValidateOutsideValidityIntervalUtxo"),
       ("conway", "allegra.UtxoValidateOutsideValidityIntervalUtxo")] := by
  -- membership by finding the name; no two names are ever compared for inequality
  simp only [List.forall_mem_cons, List.not_mem_nil, false_imp_iff, implies_true, and_true]
  simp only [GV.Gen.RuleLists.shelley, GV.Gen.RuleLists.allegra, GV.Gen.RuleLists.mary,
    GV.Gen.RuleLists.alonzo, GV.Gen.RuleLists.babbage, GV.Gen.RuleLists.conway,
    GV.Gen.RuleLists.dijkstra, List.mem_cons, true_or, or_true, true_and]
  rfl

/-- Non-vacuity: accepted and rejected transactions with both bounds present exist. -/
example : ok { shelley := false, slot := 10, start := some 10, ttl := some 11 } = true := by decide
example : ok { shelley := false, slot := 10, start := some 3, ttl := some 10 } = false := by decide
example : ok { shelley := true, slot := 10, start := none, ttl := some 10 } = true := by decide
example : ok { shelley := true, slot := 11, start := none, ttl := some 10 } = false := by decide

end GV.Props.C26
