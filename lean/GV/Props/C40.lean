import GV.Model.Header
import GV.Model.HeaderSym
import GV.Gen.HeaderFacts
import GV.Gen.VrfConsts
import GV.Gen.KesConsts
import GV.Proofs.Ladder
/-!
C40 — Produced headers validate, and tampered ones do not.

A header built by the block builder from a pool's VRF key, KES key and operational
certificate for a slot it leads passes header validation. Changing any signed header field,
the operational certificate or its cold signature, or presenting it at a KES period outside
the certificate's window, makes validation fail.

Theorems are about `GV.Model.Header` (`build` mirrors `BlockBuilder.BuildHeader`, `validate`
mirrors `HeaderValidator.ValidateHeader`) for an arbitrary instance `P` of the primitives;
completeness / ideal-binding laws are hypotheses of the theorems that use them.
-/
namespace GV.Props.C40
open GV.Model.Header

variable {B : Type} [DecidableEq B] (P : Prims B)

/-- how a node presents a built header to the validator: fields and signed bytes from the
    header, context from the chain -/
def present (tp : Bool) (h : Fields B × B) (prevSlot prevBlockNo : Nat) (prevHash : Option B)
    (nonce : B) (pool total : Nat) (reg : Option B) : VIn B :=
  { f := h.1, kesSig := h.2, bodyCbor := P.ser tp h.1, prevSlot := prevSlot,
    prevBlockNo := prevBlockNo, prevHeaderHash := prevHash, nonce := nonce, poolStake := pool,
    totalStake := total, registeredVrfKeyHash := reg }

/-- **validate (build …) = valid.**  Hypotheses: completeness of VRF, KES and Ed25519 and the
    output sizes of the primitives (80-byte proofs, 64-byte outputs, 448-byte KES signatures);
    the operational certificate is the cold key's signature of (hot key, counter, period); the
    chain context is the one the header was built for; the KES signer is at the evolution the
    slot asks for, inside the certificate's window.  All other sizes are enforced by `build`. -/
theorem validate_build
    (hvrf : ∀ sk i, P.vrfVerify (P.vrfPk sk) (P.vrfProve sk i).1 (P.vrfProve sk i).2 i = true)
    (hkes : ∀ sk t m, t < 64 → P.kesVerify (P.kesPk sk) t m (P.kesSign sk t m) = true)
    (hed : ∀ sk m, P.edVerify (P.edPk sk) m (P.edSign sk m) = true)
    (hlp : ∀ sk i, P.len (P.vrfProve sk i).1 = 80) (hlo : ∀ sk i, P.len (P.vrfProve sk i).2 = 64)
    (hls : ∀ sk t m, P.len (P.kesSign sk t m) = 448)
    (b : Builder B) (i : BuildIn B) (c : Cfg) (cold : B) (h : Fields B × B)
    (hb : build P b i = .ok h)
    (hmode : c.tpraos = b.tpraos)
    (hoc : b.issuer = P.edPk cold ∧ b.ocSig = P.edSign cold (P.signable b.ocHot b.ocSeq b.ocPeriod))
    (prevSlot prevBlockNo : Nat)
    (hslot : prevSlot < i.slot) (hbn : i.blockNo = (prevBlockNo + 1) % 2 ^ 64)
    (hspk : c.slotsPerKESPeriod ≠ 0)
    (hcur : i.slot / c.slotsPerKESPeriod = b.ocPeriod + b.kesT)
    (hwin : b.kesT < c.maxKESEvolutions) (ht : b.kesT < 64) :
    validate P c (present P b.tpraos h prevSlot prevBlockNo (some i.prevHash) i.nonce
      i.poolStake i.totalStake none) = [] := by
  -- `build` succeeded: its three tests passed and `h` is the header it assembles
  simp only [build, ite_eq_of_ne, reduceCtorEq, ne_eq, not_false_eq_true, Bool.not_eq_true',
    Bool.not_eq_false, Decidable.not_not, not_or, Except.ok.injEq] at hb
  obtain ⟨hsz, hk', ⟨ht0, hp0, hbelow'⟩, rfl⟩ := hb
  simp only [sizesOk, Bool.and_eq_true, beq_iff_eq, and_assoc] at hsz
  -- `sizesOk` tests, in this order: issuer, prevHash, nonce, bodyHash, vrfPk, ocHot, ocSig, kesPk
  obtain ⟨zIssuer, -, zNonce, -, zVrfPk, -, zOcSig, zKesPk⟩ := hsz
  have hsub : b.ocPeriod + b.kesT - b.ocPeriod = b.kesT := by omega
  have hge : ¬ (b.ocPeriod + b.kesT < b.ocPeriod) := by omega
  have hw : ¬ (b.kesT ≥ c.maxKESEvolutions) := by omega
  have hs : ¬ (i.slot ≤ prevSlot) := by omega
  have zIssuer' : P.len (P.edPk cold) = 32 := by rw [← hoc.1]; exact zIssuer
  have zOcSig' : P.len (P.edSign cold (P.signable (P.kesPk b.kesSk) b.ocSeq b.ocPeriod)) = 64 := by
    rw [hk', ← hoc.2]; exact zOcSig
  cases htp : b.tpraos <;>
    simp [validate, present, chkSlot, chkBlockNo, chkPrevHash, chkVrf, chkLeader, chkNonceVrf,
      chkKesPeriod, chkKesSig, chkOpCert, chkVrfReg, vrfOk, hmode, htp, hvrf, hs, hbn, hspk,
      hcur, hsub, hge, hw, ht0, ← hk', hkes _ _ _ ht, hoc.1, hoc.2, hed, hlp, hlo, hls,
      zIssuer', zNonce, zVrfPk, zOcSig', zKesPk, htp ▸ hbelow']

/-! ### what the checks accept -/

theorem valid_iff (c : Cfg) (v : VIn B) :
    valid P c v = true ↔
      chkSlot v = [] ∧ chkBlockNo v = [] ∧ chkPrevHash v = [] ∧ chkVrf P c v = [] ∧
      chkLeader P c v = [] ∧ chkNonceVrf P c v = [] ∧ chkKesPeriod c v = [] ∧
      chkKesSig P c v = [] ∧ chkOpCert P v = [] ∧ chkVrfReg P v = [] := by
  simp only [valid, validate, List.isEmpty_iff, List.append_eq_nil_iff, and_assoc]

omit [DecidableEq B] in
theorem chkKesPeriod_nil (c : Cfg) (v : VIn B) :
    chkKesPeriod c v = [] ↔ c.slotsPerKESPeriod ≠ 0 ∧ v.f.ocPeriod ≤ v.f.slot / c.slotsPerKESPeriod ∧
      v.f.slot / c.slotsPerKESPeriod - v.f.ocPeriod < c.maxKESEvolutions := by
  simp only [chkKesPeriod, ite_eq_of_ne, ne_eq, List.cons_ne_nil, not_false_eq_true, Nat.not_lt,
    ge_iff_le, Nat.not_le, and_true]

omit [DecidableEq B] in
theorem chkKesSig_nil (c : Cfg) (v : VIn B) :
    chkKesSig P c v = [] ↔ c.slotsPerKESPeriod ≠ 0 ∧ P.len v.kesSig = 448 ∧ P.len v.f.ocHot = 32 ∧
      v.f.ocPeriod ≤ v.f.slot / c.slotsPerKESPeriod ∧
      P.kesVerify v.f.ocHot (v.f.slot / c.slotsPerKESPeriod - v.f.ocPeriod) v.bodyCbor v.kesSig = true := by
  simp only [chkKesSig, ite_eq_of_ne, ne_eq, List.cons_ne_nil, not_false_eq_true, Nat.not_lt,
    Decidable.not_not, ite_eq_left_iff, imp_false]

omit [DecidableEq B] in
theorem chkOpCert_nil (v : VIn B) :
    chkOpCert P v = [] ↔ P.len v.f.issuer = 32 ∧ P.len v.f.ocSig = 64 ∧
      P.edVerify v.f.issuer (P.signable v.f.ocHot v.f.ocSeq v.f.ocPeriod) v.f.ocSig = true := by
  simp only [chkOpCert, ite_eq_left_iff, List.cons_ne_nil, imp_false, Decidable.not_not,
    Bool.and_eq_true, beq_iff_eq, and_assoc]

/-- **KES window**: at a KES period outside `[start, start + max)` the header is invalid,
    whatever the signatures are. -/
theorem kes_window (c : Cfg) (v : VIn B)
    (h : c.slotsPerKESPeriod = 0 ∨ v.f.slot / c.slotsPerKESPeriod < v.f.ocPeriod ∨
         v.f.slot / c.slotsPerKESPeriod - v.f.ocPeriod ≥ c.maxKESEvolutions) :
    valid P c v = false := by
  refine Bool.eq_false_iff.mpr fun hv => ?_
  obtain ⟨-, -, -, -, -, -, (hp : chkKesPeriod c v = []), -⟩ := (valid_iff P c v).mp hv
  obtain ⟨h0, h1, h2⟩ := (chkKesPeriod_nil c v).mp hp
  omega

theorem valid_kesSig (c : Cfg) (v : VIn B) (h : valid P c v = true) :
    P.kesVerify v.f.ocHot (v.f.slot / c.slotsPerKESPeriod - v.f.ocPeriod) v.bodyCbor v.kesSig = true := by
  obtain ⟨-, -, -, -, -, -, -, (hs : chkKesSig P c v = []), -⟩ := (valid_iff P c v).mp h
  exact ((chkKesSig_nil P c v).mp hs).2.2.2.2

theorem valid_opCert (c : Cfg) (v : VIn B) (h : valid P c v = true) :
    P.edVerify v.f.issuer (P.signable v.f.ocHot v.f.ocSeq v.f.ocPeriod) v.f.ocSig = true := by
  obtain ⟨-, -, -, -, -, -, -, -, (ho : chkOpCert P v = []), -⟩ := (valid_iff P c v).mp h
  exact ((chkOpCert_nil P v).mp ho).2.2

theorem valid_sizes (c : Cfg) (v : VIn B) (h : valid P c v = true) :
    P.len v.kesSig = 448 ∧ P.len v.f.ocHot = 32 ∧ P.len v.f.issuer = 32 ∧ P.len v.f.ocSig = 64 := by
  obtain ⟨-, -, -, -, -, -, -, (hk : chkKesSig P c v = []), (ho : chkOpCert P v = []), -⟩ :=
    (valid_iff P c v).mp h
  obtain ⟨_, a, b, _⟩ := (chkKesSig_nil P c v).mp hk
  obtain ⟨d, e, _⟩ := (chkOpCert_nil P v).mp ho
  exact ⟨a, b, d, e⟩

/-! ### block level (`ledger.VerifyBlock`) -/

/-- **A block assembled around a built header verifies**: given completeness of VRF and KES, the
    KES signer at the evolution the slot asks for, and body segments that hash to the body hash
    the builder was given. -/
theorem verifyBlock_build
    (hvrf : ∀ sk i, P.vrfVerify (P.vrfPk sk) (P.vrfProve sk i).1 (P.vrfProve sk i).2 i = true)
    (hkes : ∀ sk t m, t < 64 → P.kesVerify (P.kesPk sk) t m (P.kesSign sk t m) = true)
    (hls : ∀ sk t m, P.len (P.kesSign sk t m) = 448)
    (b : Builder B) (i : BuildIn B) (h : Fields B × B) (hb : build P b i = .ok h)
    (spk : Nat) (hspk : spk ≠ 0) (hcur : i.slot / spk = b.ocPeriod + b.kesT) (ht : b.kesT < 64) :
    verifyBlock P (present P b.tpraos h 0 0 none i.nonce i.poolStake i.totalStake none)
      b.tpraos spk i.bodyHash = .ok () := by
  simp only [build, ite_eq_of_ne, reduceCtorEq, ne_eq, not_false_eq_true, Bool.not_eq_true',
    Bool.not_eq_false, Decidable.not_not, not_or, Except.ok.injEq] at hb
  obtain ⟨hsz, hk', ⟨ht0, hp0, hbelow'⟩, rfl⟩ := hb
  have hsub : b.ocPeriod + b.kesT - b.ocPeriod = b.kesT := by omega
  have hge : ¬ (b.ocPeriod + b.kesT < b.ocPeriod) := by omega
  simp [verifyBlock, ledgerKes, present, hvrf, hspk, hls, hcur, hsub, hge, ← hk',
    hkes _ _ _ ht]

omit [DecidableEq B] in
theorem ledgerKes_true (v : VIn B) (spk : Nat) :
    ledgerKes P v spk = some true ↔ spk ≠ 0 ∧ P.len v.kesSig = 448 ∧ v.f.ocPeriod ≤ v.f.slot / spk ∧
      P.kesVerify v.f.ocHot (v.f.slot / spk - v.f.ocPeriod) v.bodyCbor v.kesSig = true := by
  simp only [ledgerKes, ite_eq_of_ne, ne_eq, reduceCtorEq, not_false_eq_true, Nat.not_lt,
    Decidable.not_not, Option.some.injEq, Bool.false_eq_true]

/-- what an accepted block guarantees: the leader VRF verifies for the header's slot, the KES
    signature verifies over the header-body bytes in the block at the evolution of the slot, and
    the body segments in the block hash to the header's body hash. -/
theorem verifyBlock_sound (v : VIn B) (tp : Bool) (spk : Nat) (segHash : B)
    (h : verifyBlock P v tp spk segHash = .ok ()) :
    P.vrfVerify v.f.vrfKey v.f.vrfProof v.f.vrfOut (P.mkInput tp v.f.slot v.nonce false) = true ∧
    spk ≠ 0 ∧ v.f.ocPeriod ≤ v.f.slot / spk ∧
    P.kesVerify v.f.ocHot (v.f.slot / spk - v.f.ocPeriod) v.bodyCbor v.kesSig = true ∧
    v.f.bodyHash = segHash := by
  simp only [verifyBlock, ite_eq_of_ne, reduceCtorEq, ne_eq, not_false_eq_true, Bool.not_eq_true',
    Bool.not_eq_false] at h
  obtain ⟨hv, h⟩ := h
  split at h
  · cases h
  · cases h
  · rename_i hk
    obtain ⟨h0, _, h1, hk⟩ := (ledgerKes_true P v spk).mp hk
    simp only [ite_eq_of_ne, reduceCtorEq, ne_eq, not_false_eq_true, Decidable.not_not, and_true] at h
    exact ⟨hv, h0, h1, hk, h⟩

/-- **Body-hash binding through the KES-signed header** (symbolic: ideal KES, injective
    serialisation): a block that keeps the builder's KES signature and is accepted carries the
    builder's header fields, hence its body segments hash to the body hash the builder signed —
    a changed body (other bytes, even with the same content) is rejected. -/
theorem body_bound_through_kes
    (hbind : ∀ vk t m σ, P.kesVerify vk t m σ = true → ∃ sk, vk = P.kesPk sk ∧ σ = P.kesSign sk t m)
    (hsinj : ∀ sk t m sk' t' m', P.kesSign sk t m = P.kesSign sk' t' m' → sk = sk' ∧ t = t' ∧ m = m')
    (hser : ∀ tp f f', P.ser tp f = P.ser tp f' → f = f')
    (v : VIn B) (tp : Bool) (spk : Nat) (segHash : B) (f0 : Fields B) (sk : B) (t : Nat)
    (hsig : v.kesSig = P.kesSign sk t (P.ser tp f0)) (hbody : v.bodyCbor = P.ser tp v.f)
    (h : verifyBlock P v tp spk segHash = .ok ()) :
    v.f = f0 ∧ segHash = f0.bodyHash := by
  obtain ⟨_, _, _, hk, hbh⟩ := verifyBlock_sound P v tp spk segHash h
  obtain ⟨sk', _, hσ⟩ := hbind _ _ _ _ hk
  rw [hsig, hbody] at hσ
  have hf := (hser _ _ _ (hsinj _ _ _ _ _ _ hσ).2.2).symm
  exact ⟨hf, by rw [← hbh, hf]⟩

/-- **Tampering with any signed field fails** (symbolic: ideal KES — only genuine signatures
    verify and they bind key, evolution and message — and an injective serialisation).  The
    header keeps the builder's KES signature but its body, as decoded by the node, differs in
    some field — block number, slot, previous hash, issuer, VRF key/proof/output, body size/hash,
    operational certificate fields or cold signature, protocol version: validation fails. -/
theorem tamper_signed_field_fails
    (hbind : ∀ vk t m σ, P.kesVerify vk t m σ = true → ∃ sk, vk = P.kesPk sk ∧ σ = P.kesSign sk t m)
    (hsinj : ∀ sk t m sk' t' m', P.kesSign sk t m = P.kesSign sk' t' m' → sk = sk' ∧ t = t' ∧ m = m')
    (hser : ∀ tp f f', P.ser tp f = P.ser tp f' → f = f')
    (c : Cfg) (v : VIn B) (f0 : Fields B) (sk : B) (t : Nat)
    (hsig : v.kesSig = P.kesSign sk t (P.ser c.tpraos f0))
    (hbody : v.bodyCbor = P.ser c.tpraos v.f)
    (hne : v.f ≠ f0) : valid P c v = false := by
  refine Bool.eq_false_iff.mpr fun hv => ?_
  obtain ⟨sk', _, hσ⟩ := hbind _ _ _ _ (valid_kesSig P c v hv)
  rw [hsig, hbody] at hσ
  exact hne (hser _ _ _ (hsinj _ _ _ _ _ _ hσ).2.2).symm

/-- **Tampering with the KES signature fails** (ideal KES): any other signature over the genuine
    body is rejected, as is the genuine signature presented at another evolution. -/
theorem tamper_kes_sig_fails
    (hbind : ∀ vk t m σ, P.kesVerify vk t m σ = true → ∃ sk, vk = P.kesPk sk ∧ σ = P.kesSign sk t m)
    (hpk : ∀ a b, P.kesPk a = P.kesPk b → a = b)
    (c : Cfg) (v : VIn B) (sk : B) (hhot : v.f.ocHot = P.kesPk sk)
    (hne : v.kesSig ≠ P.kesSign sk (v.f.slot / c.slotsPerKESPeriod - v.f.ocPeriod) v.bodyCbor) :
    valid P c v = false := by
  refine Bool.eq_false_iff.mpr fun hv => ?_
  obtain ⟨sk', hvk, hσ⟩ := hbind _ _ _ _ (valid_kesSig P c v hv)
  rw [hhot] at hvk
  cases hpk _ _ hvk
  exact hne hσ

/-- **The operational certificate binds the hot key** (ideal Ed25519, injective signable bytes):
    a valid header whose cold signature is the cold key's signature over (hot, counter, period)
    carries exactly that hot key, counter and period — substituting one's own KES key, or
    replaying the certificate with another counter/period, fails. -/
theorem opcert_binds
    (hbind : ∀ pk m σ, P.edVerify pk m σ = true → ∃ sk, pk = P.edPk sk ∧ σ = P.edSign sk m)
    (hsinj : ∀ sk m sk' m', P.edSign sk m = P.edSign sk' m' → sk = sk' ∧ m = m')
    (hsg : ∀ a s p a' s' p', P.signable a s p = P.signable a' s' p' → a = a' ∧ s = s' ∧ p = p')
    (c : Cfg) (v : VIn B) (cold hot : B) (seq per : Nat)
    (hsig : v.f.ocSig = P.edSign cold (P.signable hot seq per))
    (hv : valid P c v = true) :
    v.f.ocHot = hot ∧ v.f.ocSeq = seq ∧ v.f.ocPeriod = per := by
  have h := valid_opCert P c v hv
  obtain ⟨sk, _, hσ⟩ := hbind _ _ _ h
  rw [hsig] at hσ
  have := (hsinj _ _ _ _ hσ).2
  obtain ⟨a, b, d⟩ := hsg _ _ _ _ _ _ this
  exact ⟨a.symm, b.symm, d.symm⟩

/-! ### regenerated source facts

The order of the ten checks of `ValidateHeader`, the comparisons of the window / ordering checks,
every byte-length comparison of validator and builder and the size constants are read off
consensus/validate.go, consensus/block.go, ledger/verify_kes.go, vrf and kes on every run
(extract/facts_g8.go); the model was written against exactly these. -/
theorem source_facts :
    GV.Gen.HeaderFacts.checks =
      ["validateSlotOrdering", "validateBlockNumber", "validatePrevHash", "validateVRFProof",
       "validateLeadership", "validateNonceVRFProof", "validateKESPeriod", "validateKESSignature",
       "validateOpCertSignature", "validateVRFKeyRegistration"] ∧
    GV.Gen.HeaderFacts.kesPeriodConds =
      ["v.slotsPerKESPeriod == 0", "currentKESPeriod < opCertKESPeriod",
       "evolutionPeriod >= v.maxKESEvolutions"] ∧
    GV.Gen.HeaderFacts.slotConds = ["input.Slot <= input.PrevSlot"] ∧
    GV.Gen.HeaderFacts.blockNoConds = ["input.BlockNumber != expectedBlockNumber"] ∧
    GV.Gen.HeaderFacts.prevHashConds =
      ["input.BlockNumber > 0 && len(input.PrevHeaderHash) == 0",
       "len(input.PrevHeaderHash) > 0 && !bytes.Equal(input.PrevHash, input.PrevHeaderHash)"] ∧
    GV.Gen.HeaderFacts.kesComponentsConds =
      ["slotsPerKesPeriod == 0", "len(signature) != kes.CardanoKesSignatureSize",
       "currentKesPeriod < kesPeriod"] ∧
    GV.Gen.HeaderFacts.verifyCertifiedVRF_lens =
      [("epochNonce", "!=", "32"), ("vrfKey", "!=", "vrf.PublicKeySize"),
       ("proof", "!=", "vrf.ProofSize"), ("output", "!=", "vrf.OutputSize")] ∧
    GV.Gen.HeaderFacts.validateKESSignature_lens =
      [("input.HeaderBodyCbor", "==", "0"), ("input.KesSignature", "!=", "kes.CardanoKesSignatureSize"),
       ("input.OpCertHotVkey", "!=", "kes.PublicKeySize")] ∧
    GV.Gen.HeaderFacts.validateOpCertSignature_lens =
      [("input.IssuerVkey", "==", "0"), ("input.IssuerVkey", "!=", "ed25519.PublicKeySize"),
       ("input.OpCertSignature", "!=", "ed25519.SignatureSize")] ∧
    GV.Gen.HeaderFacts.validateVRFKeyRegistration_lens =
      [("input.RegisteredVrfKeyHash", "==", "0"), ("input.VrfKey", "!=", "vrf.PublicKeySize")] ∧
    GV.Gen.HeaderFacts.buildHeader_lens =
      [("input.PrevHash", "==", "0"), ("input.EpochNonce", "==", "0"), ("input.BlockBodyHash", "==", "0"),
       ("b.issuerVkey", "!=", "32"), ("input.PrevHash", "!=", "32"), ("input.EpochNonce", "!=", "32"),
       ("input.BlockBodyHash", "!=", "32"), ("vrfPubKey", "!=", "vrf.PublicKeySize"),
       ("b.opCert.HotVkey", "!=", "32"), ("b.opCert.Signature", "!=", "64"), ("kesPublicKey", "!=", "32"),
       ("nonceVrfProof", "!=", "vrf.ProofSize"), ("nonceVrfOutput", "!=", "vrf.OutputSize")] ∧
    GV.Gen.VrfConsts.proofSize = 80 ∧ GV.Gen.VrfConsts.outputSize = 64 ∧
    GV.Gen.VrfConsts.publicKeySize = 32 ∧ GV.Gen.KesConsts.cardanoKesSignatureSize = 448 ∧
    GV.Gen.KesConsts.publicKeySize = 32 :=
  ⟨rfl, rfl, rfl, rfl, rfl, rfl, rfl, rfl, rfl, rfl, rfl, rfl, rfl, rfl, rfl, rfl⟩

/-- Regenerated era switches: `ledger.ExtractKesFields` returns (signature, hot key, certificate
    KES PERIOD) for every header type — the TPraos family from the flat fields, the Praos family
    from the nested certificate — and `ledger.VerifyBlock` takes the leader VRF of every type from
    the same place.  The model is era-independent because of exactly this; a slip in one case of
    the switch (e.g. the issue counter instead of the period for one era) breaks this obligation. -/
theorem era_switch_facts :
    GV.Gen.HeaderFacts.extractKesFields =
      [("*shelley.ShelleyBlockHeader", "return h.Signature, h.Body.OpCertHotVkey, uint64(h.Body.OpCertKesPeriod), nil"),
       ("*allegra.AllegraBlockHeader", "return h.Signature, h.Body.OpCertHotVkey, uint64(h.Body.OpCertKesPeriod), nil"),
       ("*mary.MaryBlockHeader", "return h.Signature, h.Body.OpCertHotVkey, uint64(h.Body.OpCertKesPeriod), nil"),
       ("*alonzo.AlonzoBlockHeader", "return h.Signature, h.Body.OpCertHotVkey, uint64(h.Body.OpCertKesPeriod), nil"),
       ("*babbage.BabbageBlockHeader", "return h.Signature, h.Body.OpCert.HotVkey, uint64(h.Body.OpCert.KesPeriod), nil"),
       ("*conway.ConwayBlockHeader", "return h.Signature, h.Body.OpCert.HotVkey, uint64(h.Body.OpCert.KesPeriod), nil"),
       ("*dijkstra.DijkstraBlockHeader", "return h.Signature, h.Body.OpCert.HotVkey, uint64(h.Body.OpCert.KesPeriod), nil"),
       ("default", "...")] ∧
    GV.Gen.HeaderFacts.verifyBlockVrfSwitch =
      [("*shelley.ShelleyBlockHeader", "vrfResult = h.Body.LeaderVrf; vrfKey = h.Body.VrfKey; isTPraos = true"),
       ("*allegra.AllegraBlockHeader", "vrfResult = h.Body.LeaderVrf; vrfKey = h.Body.VrfKey; isTPraos = true"),
       ("*mary.MaryBlockHeader", "vrfResult = h.Body.LeaderVrf; vrfKey = h.Body.VrfKey; isTPraos = true"),
       ("*alonzo.AlonzoBlockHeader", "vrfResult = h.Body.LeaderVrf; vrfKey = h.Body.VrfKey; isTPraos = true"),
       ("*babbage.BabbageBlockHeader", "vrfResult = h.Body.VrfResult; vrfKey = h.Body.VrfKey"),
       ("*conway.ConwayBlockHeader", "vrfResult = h.Body.VrfResult; vrfKey = h.Body.VrfKey"),
       ("*dijkstra.DijkstraBlockHeader", "vrfResult = h.Body.VrfResult; vrfKey = h.Body.VrfKey"),
       ("default", "...")] := ⟨rfl, rfl⟩

/-! ### non-vacuity on the symbolic instance -/
open GV.Model.HeaderSym

def exBuilder : Builder T :=
  { tpraos := false, vrfSk := T.atom 10, kesSk := T.atom 20, kesT := 3, ocHot := T.kpk 20,
    ocSeq := 4, ocPeriod := 100, ocSig := T.esg 30 (T.signable (T.kpk 20) 4 100), issuer := T.epk 30 }
def exIn : BuildIn T :=
  { slot := 103 * 129600 + 5, blockNo := 8, prevHash := T.atom 1, nonce := T.atom 7,
    poolStake := 10, totalStake := 10, bodyHash := T.atom 3, bodySize := 1, protoMajor := 9,
    protoMinor := 0 }
def exP : Prims T := sym true (T.vout 10 (T.inp false (103 * 129600 + 5) 7 false)) none

example : ∃ h, build exP exBuilder exIn = .ok h ∧
    validate exP ⟨false, 129600, 62⟩
      (present exP false h (103 * 129600) 7 (some (T.atom 1)) (T.atom 7) 10 10 none) = [] := by
  refine ⟨_, rfl, ?_⟩
  decide

example : ∀ sk i, exP.vrfVerify (exP.vrfPk sk) (exP.vrfProve sk i).1 (exP.vrfProve sk i).2 i = true := by
  intro sk i; simp only [exP, sym, beq_self_eq_true, Bool.and_self]
example : ∀ sk t m, t < 64 → exP.kesVerify (exP.kesPk sk) t m (exP.kesSign sk t m) = true := by
  intro sk t m h; simp only [exP, sym, beq_self_eq_true, Bool.and_self, h, decide_true]
example : ∀ vk t m σ, exP.kesVerify vk t m σ = true →
    ∃ sk, vk = exP.kesPk (T.atom sk) ∧ σ = exP.kesSign (T.atom sk) t m := by
  intro vk t m σ h
  simp only [exP, sym] at h ⊢
  split at h
  · simp only [Bool.and_eq_true, beq_iff_eq, decide_eq_true_eq] at h
    obtain ⟨⟨⟨rfl, rfl⟩, rfl⟩, _⟩ := h
    exact ⟨_, rfl, rfl⟩
  · cases h

end GV.Props.C40
