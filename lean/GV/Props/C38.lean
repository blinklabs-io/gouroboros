import GV.Model.Vrf
import GV.Model.VrfSym
import GV.Gen.VrfFacts
import GV.Gen.VrfConsts
/-!
C38 — VRF proofs verify exactly when they are genuine.

For every key seed and message, a proof produced by the prover verifies under the matching
public key and yields the same output that proving returned. Changing any bit of the proof,
the message or the public key makes verification fail, as do a non-canonical response scalar
and a small-order public key.

Level: **partial**.  Completeness, output consistency and the two guards are theorems about the
model over an abstract group (module laws as hypotheses).  "Any flipped bit fails" is a
computational-soundness claim about SHA-512/Elligator2/edwards25519 encodings with no statement
in this model; the exhaustive flips run by the check are tests and are labelled as tests.
-/
namespace GV.Props.C38
open GV.Model.Vrf

variable {G S Sk Msg Out : Type} (P : Prims G S Sk Msg Out)

/-- the module laws of the group used by the completeness proof -/
structure Laws : Prop where
  add_smul : ∀ a b X, P.smul (P.sadd a b) X = P.add (P.smul a X) (P.smul b X)
  mul_smul : ∀ a b X, P.smul (P.smulS a b) X = P.smul a (P.smul b X)
  add_neg_cancel : ∀ X Z, P.add (P.add X Z) (P.neg Z) = X

/-- `s·X − c·(x·X) = k·X` for `s = k + c·x`: the recomputed commitments are the prover's. -/
theorem recompute (hL : Laws P) (k c x : S) (X : G) :
    sub P (P.smul (P.sadd k (P.smulS c x)) X) (P.smul c (P.smul x X)) = P.smul k X := by
  unfold sub
  rw [hL.add_smul, hL.mul_smul, hL.add_neg_cancel]

/-- guard: a response scalar that `SetCanonicalBytes` refuses is rejected, whatever the rest -/
theorem noncanonical_s_rejected [DecidableEq S] (Y : G) (pi : Proof G S) (alpha : Msg)
    (hs : pi.sCanonical = false) : ∃ e, verifyAndHash P Y pi alpha = .error e := by
  unfold verifyAndHash verifyCore
  by_cases h : P.smallOrder Y = true
  · exact ⟨.smallOrder, by simp [h]⟩
  · exact ⟨.nonCanonicalS, by simp [h, hs]⟩

/-- guard: a small-order public key is rejected before anything else -/
theorem small_order_pk_rejected [DecidableEq S] (Y : G) (pi : Proof G S) (alpha : Msg)
    (h : P.smallOrder Y = true) : verifyAndHash P Y pi alpha = .error .smallOrder := by
  simp [verifyAndHash, h]

theorem accepted_output [DecidableEq S] (Y : G) (pi : Proof G S) (alpha : Msg) (o : Out)
    (h : verifyAndHash P Y pi alpha = .ok o) : o = P.outHash pi.gamma := by
  unfold verifyAndHash at h
  split at h
  · simp at h
  · split at h <;> simp at h
    exact h.symm

/-- **Any nonce gives an accepted proof with the same output**: the proof
    `(x·H, c = hashPoints(H, x·H, k'·B, k'·H), k' + c·x)` verifies for *every* scalar `k'`, and its
    output is the prover's.  So accepted proofs are not unique as byte strings (the holder of the
    secret key can make others); what the scheme promises is uniqueness of the *output*. -/
theorem verify_any_nonce [DecidableEq S] (hL : Laws P) (sk : Sk) (alpha : Msg) (k' : S)
    (hso : P.smallOrder (pkOf P sk) = false) :
    let x := P.scalarOf sk
    let H := P.h2c (pkOf P sk) alpha
    let c := P.hashPoints H (P.smul x H) (P.smul k' P.base) (P.smul k' H)
    verifyAndHash P (pkOf P sk) { gamma := P.smul x H, c := c, s := P.sadd k' (P.smulS c x) } alpha
      = .ok (prove P sk alpha).2 := by
  intro x H c
  unfold verifyAndHash verifyCore prove pkOf at *
  simp only [hso, Bool.false_eq_true, if_false, Bool.not_true]
  have e1 := recompute P hL k' c x P.base
  have e2 := recompute P hL k' c x H
  simp only [x, H, c, pkOf] at e1 e2 ⊢
  rw [e1, e2]
  simp

/-- **Completeness and output consistency**: for every secret key and message the produced proof
    verifies under the matching public key and `VerifyAndHash` returns exactly the output `Prove`
    returned (given the module laws and a public key that is not of small order). -/
theorem verify_prove [DecidableEq S] (hL : Laws P) (sk : Sk) (alpha : Msg)
    (hso : P.smallOrder (pkOf P sk) = false) :
    verifyAndHash P (pkOf P sk) (prove P sk alpha).1 alpha = .ok (prove P sk alpha).2 :=
  verify_any_nonce P hL sk alpha (P.nonce sk (P.h2c (pkOf P sk) alpha)) hso

/-- the traced values are the ones the verdict is computed from (what the oracle tie compares) -/
theorem verifyCore_trace [DecidableEq S] (Y : G) (pi : Proof G S) (alpha : Msg) :
    verifyCore P Y pi alpha =
      if !pi.sCanonical then .error .nonCanonicalS
      else .ok (pi.c == (verifyTrace P Y pi alpha).c') := rfl

theorem prove_trace (sk : Sk) (alpha : Msg) :
    (prove P sk alpha).1 = { gamma := (proveTrace P sk alpha).gamma, c := (proveTrace P sk alpha).c,
                             s := (proveTrace P sk alpha).s } ∧
    (prove P sk alpha).2 = P.outHash (proveTrace P sk alpha).gamma := ⟨rfl, rfl⟩

/-- for a genuine proof the verifier recomputes exactly the prover's commitments U = k·B, V = k·H -/
theorem verify_recomputes_commitments (hL : Laws P) (sk : Sk) (alpha : Msg) :
    (verifyTrace P (pkOf P sk) (prove P sk alpha).1 alpha).u = (proveTrace P sk alpha).u ∧
    (verifyTrace P (pkOf P sk) (prove P sk alpha).1 alpha).v = (proveTrace P sk alpha).v ∧
    (verifyTrace P (pkOf P sk) (prove P sk alpha).1 alpha).c' = (proveTrace P sk alpha).c := by
  unfold verifyTrace proveTrace prove pkOf
  simp only
  rw [recompute P hL, recompute P hL]
  exact ⟨rfl, rfl, rfl⟩

/-! ### what can be proved of output uniqueness

Coordinates: over two independent generators B, H a point is `a·B + b·H`; the key is `Y = x·B`,
a proof's `Gamma = gB·B + gH·H`, and the verifier's recomputed commitments are
`U = (s − c·x)·B`,  `V = (−c·gB)·B + (s − c·gH)·H`. -/

/-- **At most one challenge fits a hash input.**  If `Gamma ≠ x·H` (in coordinates: `gB ≠ 0` or
    `gH ≠ x`), then for a fixed hash input `(H, Gamma, U, V)` — i.e. fixed coordinates `u` of `U`
    and `vB, vH` of `V` — at most one challenge `c` satisfies the verification equations, whatever
    response `s` goes with it.  So a proof with a non-genuine `Gamma` is accepted only if the hash
    of the input happens to equal that one predetermined value: this is the algebraic core of the
    VRF's uniqueness (the rest is the random-oracle assumption on `hashPoints`, not provable
    here).  Stated over the integers as the scalar domain (any integral domain would do). -/
theorem challenge_determined (x gB gH u vB vH s c s' c' : Int)
    (hne : gB ≠ 0 ∨ gH ≠ x)
    (h1 : s - c * x = u) (h2 : -(c * gB) = vB) (h3 : s - c * gH = vH)
    (h1' : s' - c' * x = u) (h2' : -(c' * gB) = vB) (h3' : s' - c' * gH = vH) :
    c = c' := by
  rcases hne with hb | hh
  · have : c * gB = c' * gB := by omega
    exact Int.eq_of_mul_eq_mul_right hb this
  · have hd : gH - x ≠ 0 := by omega
    have e : c * (gH - x) = c' * (gH - x) := by
      have a1 : c * (gH - x) = c * gH - c * x := Int.mul_sub c gH x
      have a2 : c' * (gH - x) = c' * gH - c' * x := Int.mul_sub c' gH x
      omega
    exact Int.eq_of_mul_eq_mul_right hd e

/-- Conversely a genuine `Gamma = x·H` (`gB = 0`, `gH = x`) leaves the challenge free: the three
    equations of `challenge_determined` with `u = k`, `vB = 0`, `vH = k` hold for every `c` at
    `s = k + c·x`.  This is `verify_any_nonce` in coordinates: integer arithmetic only, no
    definition of the model enters. -/
theorem genuine_gamma_any_challenge (x k c : Int) :
    (k + c * x) - c * x = k ∧ -(c * 0) = 0 ∧ (k + c * x) - c * x = k := by
  refine ⟨by omega, by simp, by omega⟩

/-- **Output modulo torsion.**  The output hashes `cofactor·Gamma`; with the law that adding a
    torsion point does not change it (`hout`), every accepted proof whose `Gamma` is the genuine
    `x·H` plus a torsion point yields exactly the prover's output — the key holder's proofs with a
    small-order component in `Gamma` (which do verify, see the `gammaT` ops) cannot change the
    output. -/
theorem accepted_output_mod_torsion [DecidableEq S] (isTorsion : G → Prop)
    (hout : ∀ g t, isTorsion t → P.outHash (P.add g t) = P.outHash g)
    (sk : Sk) (alpha : Msg) (pi : Proof G S) (t : G) (o : Out) (ht : isTorsion t)
    (hg : pi.gamma = P.add (P.smul (P.scalarOf sk) (P.h2c (pkOf P sk) alpha)) t)
    (h : verifyAndHash P (pkOf P sk) pi alpha = .ok o) :
    o = (prove P sk alpha).2 := by
  rw [accepted_output P _ pi alpha o h, hg, hout _ _ ht]
  rfl

/-- The full statement (kept, not proved): besides completeness, every accepted proof carries the
    genuine `Gamma = x·H` up to a torsion point, hence (`accepted_output_mod_torsion`) the genuine
    output — so no change of proof, message or key can yield an accepted different output.  Not
    derivable from the module laws: by `challenge_determined` it holds unless the hash of the
    verifier's input equals one predetermined value, which is an assumption on `hashPoints`
    (random oracle) and on the independence of B and H (discrete logarithm).  Byte-level "any
    flipped bit fails" is not this statement (other valid proofs exist: `verify_any_nonce`, the
    `gammaT` ops) and is only tested. -/
def C38_full [DecidableEq S] (isTorsion : G → Prop) : Prop :=
  ∀ sk alpha, P.smallOrder (pkOf P sk) = false →
    verifyAndHash P (pkOf P sk) (prove P sk alpha).1 alpha = .ok (prove P sk alpha).2 ∧
    ∀ pi o, verifyAndHash P (pkOf P sk) pi alpha = .ok o →
      ∃ t, isTorsion t ∧ pi.gamma = P.add (P.smul (P.scalarOf sk) (P.h2c (pkOf P sk) alpha)) t

/-- what is proved of it -/
theorem C38_partial [DecidableEq S] (hL : Laws P) :
    ∀ sk alpha, P.smallOrder (pkOf P sk) = false →
      verifyAndHash P (pkOf P sk) (prove P sk alpha).1 alpha = .ok (prove P sk alpha).2 :=
  fun sk alpha h => verify_prove P hL sk alpha h

/-- Regenerated source facts: the order of the guards of `VerifyAndHash` (key decoding, small
    order, core verification, hash), the helper calls of `verify` and `Prove`, the proof-length
    check and the size constants as they stand in vrf/vrf.go on this run. -/
theorem source_facts :
    GV.Gen.VrfFacts.verifyAndHashConds = ["err != nil", "isSmallOrder", "err != nil", "!ok"] ∧
    GV.Gen.VrfFacts.verifyConds = ["err != nil", "err != nil", "err != nil"] ∧
    GV.Gen.VrfFacts.verifyCalls = ["decodeProofArrays", "hashToCurveElligator2", "hashPoints"] ∧
    GV.Gen.VrfFacts.proveCalls = ["hashToCurveElligator2", "hashPoints", "ProofToHash"] ∧
    GV.Gen.VrfFacts.decodeConds = ["len(pi) != ProofSize", "err != nil"] ∧
    GV.Gen.VrfConsts.proofSize = 80 ∧ GV.Gen.VrfConsts.outputSize = 64 ∧
    GV.Gen.VrfConsts.publicKeySize = 32 ∧ GV.Gen.VrfConsts.seedSize = 32 ∧ GV.Gen.VrfConsts.suite = 4 :=
  ⟨rfl, rfl, rfl, rfl, rfl, rfl, rfl, rfl, rfl, rfl⟩

/-! ### non-vacuity: the integers as a (toy) module over themselves -/
def toy : Prims Int Int Int Int Int :=
  { add := (· + ·), neg := (- ·), smul := (· * ·), base := 1, sadd := (· + ·), smulS := (· * ·),
    scalarOf := fun sk => 2 * sk + 1, h2c := fun y m => y + m + 5, nonce := fun sk h => sk + 3 * h,
    hashPoints := fun a b c d => a + 2 * b + 3 * c + 5 * d, outHash := fun g => 7 * g,
    smallOrder := fun y => y == 0 }

example : Laws toy where
  add_smul := by intro a b X; simp [toy, Int.add_mul]
  mul_smul := by intro a b X; simp [toy, Int.mul_assoc]
  add_neg_cancel := by intro X Z; simp [toy]; omega

example : (match verifyAndHash toy (pkOf toy 4) (prove toy 4 11).1 11 with
    | .ok o => o == (prove toy 4 11).2 | .error _ => false) = true := by decide

/-- one instance of `hout` on the free-module instance `symT 3 5` the driver uses: adding the
    torsion point `T_3` to the genuine `Gamma = x·H` leaves the output hash as it is -/
example : (GV.Model.VrfSym.symT 3 5).outHash
      (GV.Model.VrfSym.Pt.add (GV.Model.VrfSym.Pt.smul GV.Model.VrfSym.X GV.Model.VrfSym.ptH)
        (GV.Model.VrfSym.ptT 3)) =
    (GV.Model.VrfSym.symT 3 5).outHash (GV.Model.VrfSym.Pt.smul GV.Model.VrfSym.X GV.Model.VrfSym.ptH) := by
  decide

end GV.Props.C38
