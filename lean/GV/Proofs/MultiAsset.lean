import GV.Model.MultiAsset
/-
  C06: a value read as the function `qty m p n = ival (innerOf m p) n`. What `setAsset` and
  `normalize` do to that function, and `Compare` as equality of two such functions (`compare_iff`).
-/
namespace GV.Proofs.MultiAsset
open GV.Model.MultiAsset GV.Lib.AssocMap GV.Lib.CborLite

/-- quantity of a name inside one inner map -/
def ival (i : Inner) (n : Bytes) : Int :=
  match lookup n i with
  | none => 0
  | some a => val a

/-- `m.data[p]` (nil map when missing) -/
def innerOf (m : MA) (p : Bytes) : Inner := (lookup p m).getD []

theorem ival_nil (n : Bytes) : ival [] n = 0 := rfl

theorem ival_cons (e : Bytes × Amt) (t : Inner) (n : Bytes) :
    ival (e :: t) n = if e.1 = n then val e.2 else ival t n := by
  unfold ival; rw [lookup_cons]; by_cases h : e.1 = n <;> simp [h]

theorem ival_of_not_mem {i : Inner} {n : Bytes} (h : n ∉ keys i) : ival i n = 0 := by
  unfold ival; rw [lookup_eq_none_iff.mpr h]

theorem qty_eq (m : MA) (p n : Bytes) : qty m p n = ival (innerOf m p) n := by
  unfold qty asset innerOf ival
  cases h : lookup p m with
  | none => simp [val]
  | some i =>
    simp only [Option.getD_some]
    cases h2 : lookup n i <;> simp [val]

theorem innerOf_cons (e : Bytes × Inner) (t : MA) (p : Bytes) :
    innerOf (e :: t) p = if e.1 = p then e.2 else innerOf t p := by
  unfold innerOf; rw [lookup_cons]; split <;> rfl

theorem qty_cons (e : Bytes × Inner) (t : MA) (p n : Bytes) :
    qty (e :: t) p n = if e.1 = p then ival e.2 n else qty t p n := by
  rw [qty_eq, qty_eq, innerOf_cons]; split <;> rfl

theorem qty_of_not_mem {m : MA} {p : Bytes} (n : Bytes) (h : p ∉ keys m) : qty m p n = 0 := by
  rw [qty_eq]; unfold innerOf; rw [lookup_eq_none_iff.mpr h]; rfl

theorem wf_cons {e : Bytes × Inner} {t : MA} (h : WF (e :: t)) :
    e.1 ∉ keys t ∧ NodupKeys e.2 ∧ WF t := by
  obtain ⟨h1, h2⟩ := h
  rw [nodupKeys_cons] at h1
  exact ⟨h1.1, h2 e (List.mem_cons_self), h1.2, fun x hx => h2 x (List.mem_cons_of_mem _ hx)⟩

theorem wf_innerOf {m : MA} (h : WF m) (p : Bytes) : NodupKeys (innerOf m p) := by
  unfold innerOf
  cases hl : lookup p m with
  | none => exact nodupKeys_nil
  | some i => exact h.2 (p, i) (mem_of_lookup hl)

/-- both branches of `setAsset` at once: a missing policy is the empty inner map -/
theorem setAsset_eq (m : MA) (p n : Bytes) (a : Amt) :
    setAsset m p n a = GV.Lib.AssocMap.insert p (GV.Lib.AssocMap.insert n a (innerOf m p)) m := by
  unfold setAsset innerOf; cases lookup p m <;> rfl

theorem asset_setAsset (m : MA) (p n : Bytes) (a : Amt) (p' n' : Bytes) :
    asset (setAsset m p n a) p' n' = if p' = p ∧ n' = n then a else asset m p' n' := by
  rw [setAsset_eq]; unfold asset
  rw [lookup_insert]
  by_cases hp : p' = p
  · subst hp
    simp only [↓reduceIte, true_and, lookup_insert]
    by_cases hn : n' = n
    · simp [hn]
    · unfold innerOf; cases lookup p' m <;> simp [hn]
  · simp [hp]

theorem qty_setAsset (m : MA) (p n : Bytes) (a : Amt) (p' n' : Bytes) :
    qty (setAsset m p n a) p' n' = if p' = p ∧ n' = n then val a else qty m p' n' := by
  unfold qty; rw [asset_setAsset]; split <;> rfl

theorem wf_setAsset {m : MA} (h : WF m) (p n : Bytes) (a : Amt) : WF (setAsset m p n a) := by
  rw [setAsset_eq]
  refine ⟨nodupKeys_insert h.1, fun x hx => ?_⟩
  rcases mem_insert_cases hx with rfl | hx
  · exact nodupKeys_insert (wf_innerOf h p)
  · exact h.2 x hx

theorem nodupKeys_nzInner {i : Inner} (h : NodupKeys i) : NodupKeys (nzInner i) :=
  nodupKeys_filter h

theorem lookup_nzInner {i : Inner} (h : NodupKeys i) (n : Bytes) :
    lookup n (nzInner i) = (lookup n i).filter (fun a => val a != 0) :=
  lookup_filter h n

theorem mem_keys_nzInner {i : Inner} (h : NodupKeys i) (n : Bytes) :
    n ∈ keys (nzInner i) ↔ ival i n ≠ 0 := by
  rw [← lookup_isSome_iff, lookup_nzInner h, Option.isSome_filter]
  unfold ival
  cases lookup n i <;> simp

theorem ival_nzInner {i : Inner} (h : NodupKeys i) (n : Bytes) : ival (nzInner i) n = ival i n := by
  unfold ival; rw [lookup_nzInner h]
  cases lookup n i with
  | none => rfl
  | some a => by_cases hv : val a = 0 <;> simp [Option.filter_some, hv]

theorem val_of_mem_nzInner {i : Inner} (h : NodupKeys i) {n : Bytes} {a : Amt}
    (hm : (n, a) ∈ nzInner i) : val a = ival i n := by
  have hm' : (n, a) ∈ i := (List.mem_filter.mp hm).1
  unfold ival; rw [lookup_of_mem h hm']

theorem nzInner_eq_nil_iff {i : Inner} (h : NodupKeys i) :
    nzInner i = [] ↔ ∀ n, ival i n = 0 := by
  have : nzInner i = [] ↔ keys (nzInner i) = [] := List.map_eq_nil_iff.symm
  simp only [this, List.eq_nil_iff_forall_not_mem, mem_keys_nzInner h, Ne, Classical.not_not]

theorem nodupKeys_normalize {m : MA} (h : NodupKeys m) : NodupKeys (normalize m) :=
  nodupKeys_filter (nodupKeys_mapVal nzInner h)

theorem lookup_normalize {m : MA} (h : NodupKeys m) (p : Bytes) :
    lookup p (normalize m) =
      if nzInner (innerOf m p) = [] then none else some (nzInner (innerOf m p)) := by
  unfold normalize innerOf
  rw [lookup_filter (nodupKeys_mapVal nzInner h), lookup_mapVal nzInner m p]
  cases lookup p m with
  | none => rfl
  | some i => by_cases he : nzInner i = [] <;> simp [Option.filter_some, he]

theorem getD_lookup_normalize {m : MA} (h : NodupKeys m) (p : Bytes) :
    (lookup p (normalize m)).getD [] = nzInner (innerOf m p) := by
  rw [lookup_normalize h]; split
  · rename_i he; rw [he]; rfl
  · rfl

theorem mem_normalize {m : MA} (h : NodupKeys m) {e : Bytes × Inner} (he : e ∈ normalize m) :
    e.2 = nzInner (innerOf m e.1) := by
  rw [← getD_lookup_normalize h, lookup_of_mem (nodupKeys_normalize h) he]; rfl

/-- The shape `length_eq_and_all_iff` wants at the outer level (`compare_iff`): the "value" of a
    policy is the function `ival (innerOf m p) : Bytes → Int`, its zero `fun _ => 0`. -/
theorem mem_keys_normalize {m : MA} (h : WF m) (p : Bytes) :
    p ∈ keys (normalize m) ↔ ival (innerOf m p) ≠ fun _ => 0 := by
  rw [← lookup_isSome_iff, lookup_normalize h.1, Ne, funext_iff, ← nzInner_eq_nil_iff (wf_innerOf h p)]
  split <;> simp [*]

theorem wf_normalize {m : MA} (h : WF m) : WF (normalize m) := by
  refine ⟨nodupKeys_normalize h.1, ?_⟩
  intro e he
  rw [mem_normalize h.1 he]
  exact nodupKeys_nzInner (wf_innerOf h e.1)

theorem qty_normalize {m : MA} (h : WF m) (p n : Bytes) : qty (normalize m) p n = qty m p n := by
  rw [qty_eq, qty_eq, show innerOf (normalize m) p = _ from getD_lookup_normalize h.1 p,
    ival_nzInner (wf_innerOf h p)]

theorem normalize_no_zeros (m : MA) :
    ∀ e ∈ normalize m, e.2 ≠ [] ∧ ∀ x ∈ e.2, val x.2 ≠ 0 := by
  intro e he
  unfold normalize at he
  obtain ⟨hm, hne⟩ := List.mem_filter.mp he
  obtain ⟨e0, _, rfl⟩ := List.mem_map.mp hm
  refine ⟨by intro h; simp at hne h; exact hne h, ?_⟩
  intro x hx
  have := (List.mem_filter.mp hx).2
  simpa using this

/-- The per-policy check of `Compare`: `j` the argument's inner map, `i` the receiver's. -/
theorem compare_inner_iff {i j : Inner} (hi : NodupKeys i) (hj : NodupKeys j) :
    ((nzInner j).length = (nzInner i).length ∧ ∀ x ∈ nzInner j, val x.2 = ival i x.1) ↔
      ∀ n, ival i n = ival j n :=
  length_eq_and_all_iff (nodupKeys_nzInner hi) (nodupKeys_nzInner hj)
    (mem_keys_nzInner hi) (mem_keys_nzInner hj) fun e he => by
      rw [val_of_mem_nzInner hj he, eq_comm]

/-- The outer level of `Compare` repeats the inner one: policies in place of names, the function
    `ival (innerOf · p)` in place of the quantity, the per-policy check in place of the quantity
    test. -/
theorem compare_iff {a b : MA} (ha : WF a) (hb : WF b) :
    GV.Model.MultiAsset.compare a b = true ↔ ∀ p n, qty a p n = qty b p n := by
  unfold GV.Model.MultiAsset.compare
  simp only [Bool.and_eq_true, beq_iff_eq, List.all_eq_true, getD_lookup_normalize ha.1, qty_eq]
  have key := length_eq_and_all_iff (nodupKeys_normalize ha.1) (nodupKeys_normalize hb.1)
    (C := fun e => e.2.length = (nzInner (innerOf a e.1)).length ∧
      ∀ x ∈ e.2, val x.2 = ival (innerOf a e.1) x.1)
    (mem_keys_normalize ha) (mem_keys_normalize hb) fun e he => by
      rw [mem_normalize hb.1 he, funext_iff]
      exact compare_inner_iff (wf_innerOf ha e.1) (wf_innerOf hb e.1)
  simpa only [funext_iff] using key

end GV.Proofs.MultiAsset
