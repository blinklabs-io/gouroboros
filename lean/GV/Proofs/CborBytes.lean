import GV.Lib.CborBytes
/-!
  The byte-layer CBOR machine (`GV.Lib.CborBytes`) is self-delimiting. `wf_consumes_le`,
  `wf_unique` and `wf_prefix` are the top-level reading of one fact about the machine from any
  state, `runS_local`.
-/
namespace GV.Cbor

/-! ### heads -/

theorem argLen_le (ai : Nat) : argLen ai ≤ 8 := by
  grind [argLen]

theorem readHead_eq_mk {b : Bytes} {m ai arg hl : Nat} (h : readHead b = .mk m ai arg hl) :
    ∃ x tl, b = x :: tl ∧ x.toNat / 32 = m ∧ x.toNat % 32 = ai ∧ hl = 1 + argLen ai ∧
      argLen ai ≤ tl.length ∧ arg = if ai < 24 then ai else beNat (tl.take (argLen ai)) := by
  cases b with
  | nil => cases h
  | cons x tl =>
    simp only [readHead] at h
    split at h
    · cases h
    · cases h
      exact ⟨x, tl, rfl, rfl, rfl, rfl, by omega, rfl⟩

theorem readHead_bounds {rest : Bytes} {m a v h : Nat} (hh : readHead rest = .mk m a v h) :
    1 ≤ h ∧ h ≤ rest.length := by
  obtain ⟨x, tl, rfl, -, -, rfl, hle, -⟩ := readHead_eq_mk hh
  simp only [List.length_cons]; omega

theorem readHead_take {rest : Bytes} {m a v h : Nat} (hh : readHead rest = .mk m a v h) :
    (∀ k r, h ≤ k → readHead (rest.take k ++ r) = .mk m a v h) ∧
    (∀ k, k < h → readHead (rest.take k) = .short) := by
  obtain ⟨x, tl, rfl, rfl, rfl, rfl, hs, rfl⟩ := readHead_eq_mk hh
  refine ⟨fun k r hk => ?_, fun k hk => ?_⟩
  · obtain ⟨k, rfl⟩ : ∃ k', k = k' + 1 := ⟨k - 1, by omega⟩
    simp only [List.take_succ_cons, List.cons_append, readHead, List.length_append, List.length_take]
    rw [if_neg (by omega), List.take_append_of_le_length (by rw [List.length_take]; omega),
      List.take_take, Nat.min_eq_left (by omega)]
  · cases k with
    | zero => rfl
    | succ k =>
      simp only [List.take_succ_cons, readHead, List.length_take]
      rw [if_pos (by omega)]

theorem readHead_append {rest r : Bytes} {m a v h : Nat} (hh : readHead rest = .mk m a v h) :
    readHead (rest ++ r) = .mk m a v h := by
  have := (readHead_take hh).1 rest.length r (readHead_bounds hh).2
  rwa [List.take_length] at this

theorem readHead_local (b r : Bytes) (h : readHead b ≠ .short) : readHead (b ++ r) = readHead b := by
  cases hh : readHead b with
  | short => exact absurd hh h
  | mk m a v hl => exact readHead_append hh

/-! ### one step -/

theorem actionCore_leaf_ge {m a v h len : Nat} (hact : actionCore m a v h = .leaf len) : h ≤ len := by
  grind [actionCore]

theorem actionCore_ne_brk (m a v h : Nat) : actionCore m a v h ≠ .brk := by
  grind [actionCore]

theorem action_leaf_ge {top : Option Frame} {m a v h len : Nat}
    (hact : action top m a v h = .leaf len) : h ≤ len := by
  have := @actionCore_leaf_ge m a v h len
  unfold action at hact
  grind

theorem finish_consumed {c c' : Nat} {o : Option Stack}
    (h : finish c o = .fin c' ∨ ∃ s, finish c o = .cont c' s) : c' = c := by
  cases o <;> simp_all [finish]

theorem step_local {rest : Bytes} {st : Stack} {c : Nat}
    (hc : step rest st = .fin c ∨ ∃ st', step rest st = .cont c st') :
    1 ≤ c ∧ c ≤ rest.length ∧
    (∀ k r, c ≤ k → step (rest.take k ++ r) st = step rest st) ∧
    (∀ k, k < c → step (rest.take k) st = .needMore) := by
  cases hrh : readHead rest with
  | short => simp [step, hrh] at hc
  | mk m a v h =>
    have hb := readHead_bounds hrh
    obtain ⟨hlong, hshort⟩ := readHead_take hrh
    replace hshort : ∀ k, k < h → step (rest.take k) st = .needMore := fun k hk => by
      simp only [step, hshort k hk]
    simp only [step, hrh] at hc ⊢
    cases hact : action st.head? m a v h with
    | bad => simp [hact] at hc
    | leaf len =>
      have hge := action_leaf_ge hact
      rw [hact] at hc; simp only at hc
      by_cases hl : rest.length < len
      · simp [hl] at hc
      · rw [if_neg hl] at hc
        cases finish_consumed hc
        refine ⟨by omega, by omega, fun k r hk => ?_, fun k hk => ?_⟩
        · simp only [hlong k r (by omega), hact, List.length_append, List.length_take]
          rw [if_neg hl, if_neg (by omega)]
        · by_cases hkh : k < h
          · exact hshort k hkh
          · have := hlong k [] (by omega)
            rw [List.append_nil] at this
            simp only [this, hact, List.length_take]
            rw [if_pos (by omega)]
    | push f =>
      rw [hact] at hc
      obtain rfl : h = c := by simpa using hc
      exact ⟨hb.1, hb.2, fun k r hk => by simp only [hlong k r hk, hact], hshort⟩
    | brk =>
      rw [hact] at hc
      cases finish_consumed hc
      exact ⟨hb.1, hb.2, fun k r hk => by simp only [hlong k r hk, hact], hshort⟩

theorem step_bounds {rest : Bytes} {st st' : Stack} {c : Nat} (hs : step rest st = .cont c st') :
    1 ≤ c ∧ c ≤ rest.length :=
  have h := step_local (.inr ⟨st', hs⟩)
  ⟨h.1, h.2.1⟩

theorem finish_eq_cont {c c' : Nat} {o : Option Stack} {s : Stack} (h : finish c o = .cont c' s) :
    o = some s := by
  cases o <;> simp_all [finish]

theorem itemDone_some {st s : Stack} : itemDone st = some s → s ≠ [] ∧ s.length ≤ st.length := by
  fun_induction itemDone st
  case case1 => exact nofun
  -- a definite container is complete: the item also counts for the frame below
  case case2 n st hn ih => exact fun h => ⟨(ih h).1, Nat.le_succ_of_le (ih h).2⟩
  -- every other frame stays
  all_goals
    intro h
    cases h
    simp

theorem step_cont_stack {rest : Bytes} {st st' : Stack} {c : Nat} :
    step rest st = .cont c st' → st' ≠ [] ∧ st'.length ≤ st.length + 1 := by
  fun_cases step rest st
  -- a leaf that is all there: the stack after an item under `st`
  case case4 =>
    intro h
    have := itemDone_some (finish_eq_cont h)
    exact ⟨this.1, Nat.le_succ_of_le this.2⟩
  -- a container opens
  case case5 f _ =>
    intro h
    cases h
    simp
  -- the break byte: the stack after an item under `st.tail`
  case case6 =>
    intro h
    have := itemDone_some (finish_eq_cont h)
    simp only [List.length_tail] at this
    exact ⟨this.1, by omega⟩
  -- `bad`, `needMore`
  all_goals exact nofun

/-! ### the machine -/

theorem runS_local {f : Nat} {rest : Bytes} {pos : Nat} {st : Stack} {n : Nat} :
    runS f rest pos st = .ok n →
    pos < n ∧ n ≤ pos + rest.length ∧
    (∀ k r, n - pos ≤ k → runS f (rest.take k ++ r) pos st = .ok n) ∧
    (∀ k, k < n - pos → runS f (rest.take k) pos st = .needMore) := by
  fun_induction runS f rest pos st
  -- the item ends with this step
  case case4 f rest pos st c hs =>
    intro h
    cases h
    obtain ⟨hb1, hb2, k3, k4⟩ := step_local (.inl hs)
    rw [Nat.add_sub_cancel_left]
    exact ⟨Nat.lt_add_of_pos_right hb1, Nat.add_le_add_left hb2 _,
      fun k r hk => by simp only [runS, k3 k r hk, hs], fun k hk => by simp only [runS, k4 k hk]⟩
  -- the machine goes on
  case case5 f rest pos st c st' hs ih =>
    intro h
    obtain ⟨hb1, hb2, k3, k4⟩ := step_local (.inr ⟨st', hs⟩)
    obtain ⟨i1, i2, i3, i4⟩ := ih h
    rw [List.length_drop] at i2
    refine ⟨by omega, by omega, fun k r hk => ?_, fun k hk => ?_⟩
    · simp only [runS, k3 k r (by omega), hs]
      rw [List.drop_append_of_le_length (by rw [List.length_take]; omega), List.drop_take]
      exact i3 _ r (by omega)
    · by_cases hkc : k < c
      · simp only [runS, k4 k hkc]
      · have := k3 k [] (Nat.le_of_not_lt hkc)
        rw [List.append_nil] at this
        simp only [runS, this, hs, List.drop_take]
        exact i4 _ (by omega)
  -- no fuel, `bad`, `needMore`
  all_goals exact nofun

theorem runS_bounds {f : Nat} {rest : Bytes} {pos : Nat} {st : Stack} {n : Nat}
    (h : runS f rest pos st = .ok n) : pos < n ∧ n ≤ pos + rest.length :=
  ⟨(runS_local h).1, (runS_local h).2.1⟩

/-- Every step consumes ≥ 1 byte: the termination argument of the decoder loop. -/
theorem runS_fuel_irrel : ∀ {f f' : Nat} {rest : Bytes} {pos : Nat} {st : Stack},
    rest.length < f → rest.length < f' → runS f rest pos st = runS f' rest pos st := by
  intro f
  induction f with
  | zero => intro f' rest pos st h; omega
  | succ f ih =>
    intro f' rest pos st h h'
    cases f' with
    | zero => omega
    | succ f' =>
      simp only [runS]
      cases hs : step rest st with
      | bad => rfl
      | needMore => rfl
      | fin c => rfl
      | cont c st' =>
        simp only
        have hb := step_bounds hs
        apply ih <;> (simp only [List.length_drop]; omega)

def Res.shift (p : Nat) : Res → Res
  | .ok n => .ok (p + n)
  | r => r

theorem runS_shift {f : Nat} : ∀ {rest : Bytes} {pos : Nat} {st : Stack},
    runS f rest pos st = (runS f rest 0 st).shift pos := by
  induction f with
  | zero => intro rest pos st; simp [runS, Res.shift]
  | succ f ih =>
    intro rest pos st
    simp only [runS]
    cases hs : step rest st with
    | bad => rfl
    | needMore => rfl
    | fin c => simp [Res.shift]
    | cont c st' =>
      simp only
      rw [ih (pos := pos + c), ih (pos := 0 + c)]
      cases runS f (List.drop c rest) 0 st' <;> simp [Res.shift]; omega

/-! ### `wfItem` -/

theorem wfItem_eq (b : Bytes) : wfItem b = runS (b.length + 1) b 0 [] := by
  simp [wfItem, run]

theorem wf_consumes_le {b : Bytes} {n : Nat} (h : wfItem b = .ok n) : 0 < n ∧ n ≤ b.length := by
  rw [wfItem_eq] at h
  have := runS_bounds h
  omega

/-- `wf_consumes_le` free of truncated subtraction, on which every later `omega` would split cases -/
theorem wf_drop_le {data : Bytes} {p l : Nat} (h : wfItem (data.drop p) = .ok l) :
    0 < l ∧ p + l ≤ data.length := by
  have := wf_consumes_le h
  simp only [List.length_drop] at this
  omega

theorem wf_take {b : Bytes} {n : Nat} (h : wfItem b = .ok n) : wfItem (b.take n) = .ok n := by
  rw [wfItem_eq] at h ⊢
  obtain ⟨_, hn, h3, _⟩ := runS_local h
  have := h3 n [] (by omega)
  rw [List.append_nil] at this
  rw [← this]
  apply runS_fuel_irrel <;> simp only [List.length_take] <;> omega

theorem wf_append {b : Bytes} {n : Nat} (h : wfItem b = .ok n) (r : Bytes) :
    wfItem (b ++ r) = .ok n := by
  rw [wfItem_eq] at h ⊢
  rw [runS_fuel_irrel (f' := (b ++ r).length + 1) (Nat.lt_succ_self _)
    (by simp only [List.length_append]; omega)] at h
  have := (runS_local h).2.2.1 b.length r (by have := runS_bounds h; omega)
  rwa [List.take_length] at this

theorem wf_unique {b : Bytes} {n : Nat} (h : wfItem b = .ok n) (r : Bytes) :
    wfItem (b.take n ++ r) = .ok n :=
  wf_append (wf_take h) r

theorem wf_prefix {b : Bytes} {n : Nat} (h : wfItem b = .ok n) {k : Nat} (hk : k < n) :
    wfItem (b.take k) = .needMore := by
  rw [wfItem_eq] at h ⊢
  obtain ⟨_, hn, _, h4⟩ := runS_local h
  rw [← h4 k (by omega)]
  apply runS_fuel_irrel <;> simp only [List.length_take] <;> omega

end GV.Cbor
