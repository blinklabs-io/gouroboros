import GV.Model.Handshake
import GV.Proofs.VersionData
namespace GV.Proofs.Handshake
open GV.Model.VersionData GV.Model.Handshake

theorem lookupMap_cons {α : Type} (p : Nat × α) (t : List (Nat × α)) (k : Nat) :
    lookupMap (p :: t) k = if p.1 = k then some p.2 else lookupMap t k := by
  by_cases h : p.1 = k <;> simp [lookupMap, h]

theorem lookupMap_some_mem {α : Type} {m : List (Nat × α)} {k : Nat} {a : α}
    (h : lookupMap m k = some a) : (k, a) ∈ m := by
  obtain ⟨⟨k', a'⟩, hf, rfl⟩ := Option.map_eq_some_iff.mp h
  obtain rfl : k' = k := by simpa using List.find?_some hf
  exact List.mem_of_find?_eq_some hf

theorem lookupMap_isSome_iff {α : Type} (m : List (Nat × α)) (k : Nat) :
    (lookupMap m k).isSome = true ↔ k ∈ keys m := by
  simp [lookupMap, keys]

theorem mem_keys_of_lookupMap {α : Type} {m : List (Nat × α)} {k : Nat} {a : α}
    (h : lookupMap m k = some a) : k ∈ keys m :=
  (lookupMap_isSome_iff m k).mp (h ▸ rfl)

theorem lookupMap_encodeMap (C : VMap) (v : Nat) :
    lookupMap (encodeMap C) v = (lookupMap C v).map encode := by
  simp [lookupMap, encodeMap, List.find?_map, Function.comp_def]

theorem keys_encodeMap (C : VMap) : keys (encodeMap C) = keys C := by
  unfold keys encodeMap; simp [List.map_map]

theorem decode_encode_self (d : VData) (hw : d.wf) : decode d.kind (encode d) = some d := by
  simpa using GV.Proofs.VersionData.decode_encode d hw []

theorem clientHandleAccept_finished (lk : Lookup) (C : VMap) (v : Nat) (data : Bytes) (v' : Nat) (d : VData) :
    clientHandleAccept lk C v data = .finished v' d ↔
      v' = v ∧ ∃ own k, lookupMap C v = some own ∧ lk v = some k ∧ decode k data = some d ∧
        d.networkMagic = own.networkMagic := by
  refine ⟨?_, fun ⟨hv, own, k, hc, hk, hd, hm⟩ => by simp [clientHandleAccept, hv, hc, hk, hd, hm]⟩
  -- a failed test is an `.err`; `case5`: all four tests passed
  fun_cases clientHandleAccept lk C v data <;> intro h <;> cases h
  case case5 own hc k hk hd hm => exact ⟨rfl, own, k, hc, hk, hd, Decidable.not_not.mp hm⟩

theorem maxOf_eq_max (l : List Nat) : maxOf l = l.foldl max 0 := by
  have : (fun acc v : Nat => if v > acc then v else acc) = max := by
    funext a v; simp only [Nat.max_def]; split <;> split <;> omega
  rw [maxOf, this]

theorem maxOf_eq (l : List Nat) : (0 :: l).max? = some (maxOf l) := by
  rw [List.max?_cons', maxOf_eq_max]

theorem maxOf_ge (l : List Nat) : ∀ x ∈ l, x ≤ maxOf l := fun x hx =>
  (List.max?_eq_some_iff.mp (maxOf_eq l)).2 x (List.mem_cons_of_mem _ hx)

theorem maxOf_mem (l : List Nat) (h : l ≠ []) : maxOf l ∈ l := by
  obtain ⟨y, t, rfl⟩ := List.exists_cons_of_ne_nil h
  rcases List.mem_cons.mp (List.max?_eq_some_iff.mp (maxOf_eq (y :: t))).1 with h0 | hm
  · -- the maximum is 0: then so is the head
    have := maxOf_ge (y :: t) y (by simp)
    rw [h0] at this ⊢
    simp [Nat.le_zero.mp this]
  · exact hm

theorem insertAsc_perm (x : Nat) (l : List Nat) : (insertAsc x l).Perm (x :: l) := by
  induction l with
  | nil => exact List.Perm.refl _
  | cons y t ih =>
    unfold insertAsc
    by_cases h : x ≤ y
    · simp only [h, ↓reduceIte]; exact List.Perm.refl _
    · simp only [h, ↓reduceIte]
      exact (List.Perm.cons y ih).trans (List.Perm.swap x y t)

theorem insertAsc_pairwise (x : Nat) (l : List Nat) (h : l.Pairwise (· ≤ ·)) :
    (insertAsc x l).Pairwise (· ≤ ·) := by
  induction l with
  | nil => exact List.pairwise_singleton _ _
  | cons y t ih =>
    obtain ⟨hy, ht⟩ := List.pairwise_cons.mp h
    rw [insertAsc]
    by_cases hxy : x ≤ y
    · rw [if_pos hxy]
      exact List.pairwise_cons.mpr ⟨List.forall_mem_cons.mpr ⟨hxy, fun a ha => Nat.le_trans hxy (hy a ha)⟩, h⟩
    · rw [if_neg hxy]
      refine List.pairwise_cons.mpr ⟨fun a ha => ?_, ih ht⟩
      rcases List.mem_cons.mp ((insertAsc_perm x t).subset ha) with rfl | ha
      · omega
      · exact hy a ha

theorem sortAsc_perm (l : List Nat) : (sortAsc l).Perm l := by
  unfold sortAsc
  induction l with
  | nil => exact List.Perm.refl _
  | cons x t ih =>
    simp only [List.foldr_cons]
    exact (insertAsc_perm x _).trans (List.Perm.cons x ih)

theorem sortAsc_pairwise (l : List Nat) : (sortAsc l).Pairwise (· ≤ ·) := by
  unfold sortAsc
  induction l with
  | nil => simp
  | cons x t ih => simp only [List.foldr_cons]; exact insertAsc_pairwise x _ ih

/-! ### permutation invariance (Go map iteration order) -/

theorem mem_lookupMap {α : Type} {m : List (Nat × α)} (hn : (keys m).Nodup) {k : Nat} {a : α}
    (h : (k, a) ∈ m) : lookupMap m k = some a := by
  induction m with
  | nil => cases h
  | cons p t ih =>
    obtain ⟨hp, ht⟩ := List.nodup_cons.mp hn
    rw [lookupMap_cons]
    rcases List.mem_cons.mp h with rfl | h
    · exact if_pos rfl
    · rw [if_neg (fun he => hp (List.mem_map.mpr ⟨_, h, he.symm⟩)), ih ht h]

theorem lookupMap_perm {α : Type} {m m' : List (Nat × α)} (h : m'.Perm m) (hn : (keys m).Nodup) (k : Nat) :
    lookupMap m' k = lookupMap m k := by
  have hn' : (keys m').Nodup := (h.map _).nodup_iff.mpr hn
  ext a
  exact ⟨fun h' => mem_lookupMap hn (h.mem_iff.mp (lookupMap_some_mem h')),
    fun h' => mem_lookupMap hn' (h.mem_iff.mpr (lookupMap_some_mem h'))⟩

theorem maxOf_perm {l l' : List Nat} (h : l'.Perm l) : maxOf l' = maxOf l := by
  rw [maxOf_eq_max, maxOf_eq_max]
  exact h.foldl_eq' (fun x _ y _ z => Nat.max_right_comm z x y) 0

end GV.Proofs.Handshake
