import GV.Proofs.Engine
/-!
  C11 — Received messages are checked against the protocol state machine.

  The theorems are about the abstract engine `GV.Engine` (one action per verif hook event of
  protocol/protocol.go) for an ARBITRARY state machine `m` and role, and for EVERY event
  sequence the engine admits: all goroutine schedules, all peer message sequences
  (`rq` events are unconstrained: the adversary), all caller behaviours (`enq` unconstrained).
  The tie to the code is trace inclusion: recorded hook traces of the real engine, for every
  mini-protocol and role of `GV.Gen.StateMaps`, are replayed through `step?` on each check.
-/
namespace GV.Props.C11
open GV.SM GV.Engine

variable {m : Machine} {role : Nat}

/-- the ready tokens follow agency: whoever holds (or can take) the receive token does so in a
    state where the PEER has agency, and dually; never two tokens -/
theorem token_inv (evs : List Ev) {s : S} (h : run m role (init m) evs = some s) :
    ((s.recvTok = true ∨ s.recvHeld = true) → peers m role s.st = true) ∧
    ((s.sendTok = true ∨ s.sendHeld = true) → ours m role s.st = true) ∧
    ¬(s.recvTok = true ∧ s.recvHeld = true) ∧ ¬(s.sendTok = true ∧ s.sendHeld = true) :=
  let i := (inv_reachable evs h).tok
  ⟨i.tokR, i.tokS, i.tok2, i.tok1⟩

/-- A received message reaches the application only if, at the moment it was processed, the
    peer held agency and the message was permitted in the then-current state. -/
theorem handler_only_if_allowed (evs : List Ev) {s : S} (h : run m role (init m) evs = some s) :
    (∀ qa ∈ s.hlog, peers m role qa.1 = true ∧ (m.step qa.1 qa.2).isSome = true) ∧
    s.hlog.map (·.2) = s.handled ++ s.awaitHandle.toList :=
  let i := inv_reachable evs h
  ⟨i.log.hlogOk, i.rcv.handledOk⟩

/-- The current state is the state machine run along ALL applied transitions (sent and received,
    in the order they were applied): each handled message was permitted after the whole
    conversation that preceded it. -/
theorem state_is_run_of_conversation (evs : List Ev) {s : S} (h : run m role (init m) evs = some s) :
    m.run m.init s.tlog = some s.st :=
  (inv_reachable evs h).log.path

/-- What the application has seen is a prefix of what the peer sent, in order: nothing is
    skipped, duplicated or reordered, and nothing after a refused message is delivered. -/
theorem handled_prefix_of_inbound (evs : List Ev) {s : S} (h : run m role (init m) evs = some s) :
    ∃ rest, s.inb = s.handled ++ rest := by
  have i := (inv_reachable evs h).rcv
  refine ⟨s.awaitHandle.toList ++ s.recvRej.toList ++ s.reqR.toList ++ s.recvQ, ?_⟩
  rw [i.inbOrder, i.handledOk]
  simp [List.append_assoc]

/-- A message that is not permitted in the current state is refused (`transerr`), marks the
    receive loop dead, and is never handled. -/
theorem disallowed_refused {s s' : S} {src t : Nat} {a : Sym}
    (hw : who s = .recv a) (h : step? m role s (.transerr src t) = some s') :
    m.step s.st a = none ∧ s'.recvDead = true ∧ s'.recvRej = some a ∧ s'.handled = s.handled := by
  obtain ⟨hg, rfl⟩ := step_iff.mp h
  simp only [GV.Engine.guard, hw, Bool.and_eq_true, beq_iff_eq] at hg
  simp only [GV.Engine.apply, hw]
  have : m.step s.st a = none := by simpa using hg.2.2
  exact ⟨this, by simp⟩

/-- After that first refusal no further received message reaches the application, whatever
    happens next (any schedule, any further input). -/
theorem first_error_stops (evs : List Ev) {s s' : S}
    (h0 : run m role (init m) evs = some s) (hd : s.recvDead = true)
    (evs' : List Ev) (h : run m role s evs' = some s') :
    s'.handled = s.handled ∧ s'.hlog = s.hlog ∧ s'.recvDead = true :=
  inv_run (P := fun t => t.handled = s.handled ∧ t.hlog = s.hlog ∧ t.recvDead = true)
    (fun hi ⟨h1, h2, hd⟩ hs => by
      -- a dead receive loop has no request out and no handler call pending, so every event that
      -- writes one of these fields is disabled
      have ⟨hreq, haw⟩ := hi.rcv.deadR hd
      cases hs with
      | transRecv _ h | errRecv _ h => simp [hreq] at h
      | handle h => simp [haw] at h
      | _ => exact ⟨h1, h2, hd⟩)
    evs' (inv_reachable evs h0) ⟨rfl, rfl, hd⟩ h

/-! ### non-vacuity: a concrete admitted schedule of the keep-alive server engine in which a
    message is handled, and one in which a disallowed message is refused -/
open GV.Engine in
def kaServer : Machine :=
  { name := "keep-alive", role := 2, protoId := 8, init := 1,
    states := [⟨1, "Client", 1, 0, false, 0, 0, 0⟩, ⟨2, "Server", 2, 0, false, 0, 0, 0⟩, ⟨3, "Done", 0, 0, false, 0, 0, 0⟩],
    alphabet := [⟨0, 0⟩, ⟨1, 0⟩, ⟨2, 0⟩],
    trans := [⟨1, ⟨0, 0⟩, 2⟩, ⟨1, ⟨2, 0⟩, 3⟩, ⟨2, ⟨1, 0⟩, 1⟩] }

example : ((run kaServer 2 (init kaServer)
    [.state 1 true, .rq ⟨0, 0⟩, .rtok, .rtrans ⟨0, 0⟩, .trans 1 2 0, .handle 0]).map (·.handled)) = some [⟨0, 0⟩] := by
  decide
example : ((run kaServer 2 (init kaServer)
    [.state 1 true, .rq ⟨1, 0⟩, .rtok, .rtrans ⟨1, 0⟩, .transerr 1 1]).map (·.recvDead)) = some true := by
  decide
/-- the model refuses a handler call for a message whose transition was not applied -/
example : (run kaServer 2 (init kaServer) [.state 1 true, .rq ⟨1, 0⟩, .rtok, .rtrans ⟨1, 0⟩, .handle 1]).isNone = true := by
  decide

end GV.Props.C11
