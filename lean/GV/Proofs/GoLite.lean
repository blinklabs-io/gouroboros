import GV.Gen.GoLite
/-
  The GoLite translation makes Go's fixed-width arithmetic explicit: every operation is wrapped
  in `wrapU w` / `wrapS w`. A proof about translated code first shows the operands in range.
-/
namespace GV.Proofs.GoLite
open GV.Gen.GoLite

theorem wrapU_of_lt {w : Nat} {x : Int} (h0 : 0 ≤ x) (h1 : x < 2 ^ w) : wrapU w x = x :=
  Int.emod_eq_of_lt h0 h1

theorem wrapS_of_lt {w : Nat} {x : Int} (hw : 0 < w) (h0 : -(2 ^ (w - 1)) ≤ x) (h1 : x < 2 ^ (w - 1)) :
    wrapS w x = x := by
  have hp : (2 : Int) ^ w = 2 ^ (w - 1) + 2 ^ (w - 1) := by
    rw [show w = (w - 1) + 1 by omega, Int.pow_succ]; simp only [Nat.add_sub_cancel]; omega
  unfold wrapS
  rw [Int.emod_eq_of_lt (by omega) (by omega)]; omega

end GV.Proofs.GoLite
