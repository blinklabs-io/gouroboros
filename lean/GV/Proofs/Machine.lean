import GV.Model.StateMachines
import GV.Proofs.StepSystem
namespace GV.SM

theorem findTr_some_mem {ts : List Tr} {s : Nat} {a : Sym} {d : Nat}
    (h : findTr ts s a = some d) : ⟨s, a, d⟩ ∈ ts := by
  fun_induction findTr ts s a with
  | case1 => cases h  -- empty table
  | case2 t rest hc =>  -- the head `t` fits
    cases h; cases t; cases hc.1; cases hc.2
    exact List.mem_cons_self
  | case3 t rest hc ih => exact List.mem_cons_of_mem _ (ih h)  -- found further on

theorem Machine.step_eq_none {m : Machine} {a : Sym} (h : a ∉ m.trans.map (·.sym)) (s : Nat) :
    m.step s a = none :=
  Option.eq_none_iff_forall_ne_some.mpr fun _ hd => h (List.mem_map.mpr ⟨_, findTr_some_mem hd, rfl⟩)

theorem Machine.stateOf_mem {m : Machine} {q : Nat} {st : St} (h : m.stateOf q = some st) :
    st ∈ m.states :=
  List.mem_of_find?_eq_some h

theorem Machine.agencyOf_le_two (m : Machine) (h : ∀ s ∈ m.states, s.agency ≤ 2) (q : Nat) :
    m.agencyOf q ≤ 2 := by
  unfold Machine.agencyOf
  cases hf : m.stateOf q with
  | none => exact Nat.zero_le _
  | some s => exact h s (Machine.stateOf_mem hf)

theorem Machine.run_eq_foldlM (m : Machine) (s : Nat) (tr : List Sym) :
    m.run s tr = tr.foldlM m.step s := by
  fun_induction m.run s tr <;> simp [*]

theorem Machine.run_append (m : Machine) (s : Nat) (xs ys : List Sym) :
    m.run s (xs ++ ys) = (m.run s xs).bind (fun s' => m.run s' ys) := by
  simp only [Machine.run_eq_foldlM, List.foldlM_append]; rfl

end GV.SM
