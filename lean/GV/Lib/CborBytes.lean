/-
  GV.Lib.CborBytes — the byte layer of DESIGN.md §3.1 (core Lean only).

  No tree type: CBOR well-formedness is decided by a left-to-right stack
  machine over the bytes, so "every byte string the machine accepts" covers
  all header forms (minimal, 1/2/4/8-byte arguments, indefinite lengths) and
  non-minimal integers without enumerating them.

  * `readHead`   : major type, additional info, argument, ACTUAL header length
                   (`short` when the head itself is truncated)
  * `step`/`run` : the machine; frames are `defn remaining` (definite array /
                   map (2n items) / tag (1 item)) and three indefinite kinds
  * `wfItem b`   : `run (b.length+1) b 0 []` — `ok n` (one item occupies
                   exactly `b[0..n)`), `needMore` (a proper prefix of
                   something that could still become an item) or `bad`
  * `childSpans` : direct children of the array/map at the start of `b`:
                   (actual header length, [(offset,len)], indefinite?)

  Theorems are in GV/Proofs/CborBytes.lean (`readHead_local`, `wf_consumes_le`,
  `wf_unique`, `wf_prefix`) and GV/Proofs/CborTile.lean (`children_tile`).

  Policy notes (tie to fxamacker/cbor is a correspondence target, not part of
  the theorems): reserved additional info 28..30 is `bad`; a two-byte simple
  value < 32 is `bad`; chunks of an indefinite string must be definite strings
  of the same major type; an indefinite map needs an even number of items;
  `break` is only accepted inside an indefinite container. Nesting depth,
  element-count limits, duplicate map keys, UTF-8 validity and tag content
  rules are NOT part of well-formedness here.
-/
namespace GV.Cbor

abbrev Bytes := List UInt8

/-- big-endian value of a byte string -/
def beNat (b : Bytes) : Nat := b.foldl (fun acc x => acc * 256 + x.toNat) 0

/-- number of argument bytes following the initial byte -/
def argLen (ai : Nat) : Nat :=
  if ai = 24 then 1 else if ai = 25 then 2 else if ai = 26 then 4 else if ai = 27 then 8 else 0

inductive Head where
  | short
  | mk (major ai arg hlen : Nat)
deriving DecidableEq, Repr

/-- Read the head of the item at the start of `b`. `hlen` is the ACTUAL header
    length (1, 2, 3, 5 or 9), whatever the value of the argument. -/
def readHead : Bytes → Head
  | [] => .short
  | x :: rest =>
    if rest.length < argLen (x.toNat % 32) then .short
    else .mk (x.toNat / 32) (x.toNat % 32)
      (if x.toNat % 32 < 24 then x.toNat % 32 else beNat (rest.take (argLen (x.toNat % 32))))
      (1 + argLen (x.toNat % 32))

inductive Frame where
  /-- definite container with `remaining ≥ 1` items still to read -/
  | defn (remaining : Nat)
  | indefArr
  /-- `odd` = a key has been read, its value is pending -/
  | indefMap (odd : Bool)
  /-- indefinite byte (2) / text (3) string: only definite chunks of that type -/
  | indefStr (major : Nat)
deriving DecidableEq, Repr

abbrev Stack := List Frame

inductive Res where
  | ok (n : Nat)
  | needMore
  | bad
deriving DecidableEq, Repr

/-- One complete item has just been read below the frames `st`: `none` = the
    top-level item is finished, `some st'` = continue with `st'`. -/
def itemDone : Stack → Option Stack
  | [] => none
  | .defn n :: st => if n ≤ 1 then itemDone st else some (.defn (n - 1) :: st)
  | .indefArr :: st => some (.indefArr :: st)
  | .indefMap odd :: st => some (.indefMap (!odd) :: st)
  | .indefStr m :: st => some (.indefStr m :: st)

inductive Act where
  | bad
  /-- a complete leaf item of `len` bytes (header + payload) -/
  | leaf (len : Nat)
  /-- a container opens: only the header is consumed -/
  | push (f : Frame)
  /-- the break byte closing the innermost indefinite container -/
  | brk
deriving DecidableEq, Repr

def isStrFrame : Option Frame → Bool
  | some (.indefStr _) => true
  | _ => false

/-- The meaning of a head that does not depend on the enclosing frame
    (the break byte is handled by `action`). -/
def actionCore (major ai arg hlen : Nat) : Act :=
  if major = 0 ∨ major = 1 then (if ai = 31 then .bad else .leaf hlen)
  else if major = 2 ∨ major = 3 then
    (if ai = 31 then .push (.indefStr major) else .leaf (hlen + arg))
  else if major = 4 then
    (if ai = 31 then .push .indefArr else if arg = 0 then .leaf hlen else .push (.defn arg))
  else if major = 5 then
    (if ai = 31 then .push (.indefMap false) else if arg = 0 then .leaf hlen
     else .push (.defn (2 * arg)))
  else if major = 6 then (if ai = 31 then .bad else .push (.defn 1))
  else if ai = 31 then .bad
  else if ai = 24 ∧ arg < 32 then .bad
  else .leaf hlen

/-- may the innermost frame be closed by a break byte here? -/
def brkOk : Option Frame → Bool
  | some .indefArr => true
  | some (.indefMap false) => true
  | _ => false

/-- What a head means under the innermost open frame `top`. -/
def action (top : Option Frame) (major ai arg hlen : Nat) : Act :=
  if 28 ≤ ai ∧ ai ≤ 30 then .bad
  else match top with
  | some (.indefStr m) =>
    if major = 7 ∧ ai = 31 then .brk
    else if major = m ∧ ai ≠ 31 then .leaf (hlen + arg)
    else .bad
  | _ =>
    if major = 7 ∧ ai = 31 then (if brkOk top then .brk else .bad)
    else actionCore major ai arg hlen

inductive Step where
  | bad
  | needMore
  /-- the top-level item ends after `c` more bytes -/
  | fin (c : Nat)
  /-- `c` bytes consumed, continue with stack `st` -/
  | cont (c : Nat) (st : Stack)
deriving DecidableEq, Repr

def finish (c : Nat) : Option Stack → Step
  | none => .fin c
  | some s => .cont c s

/-- One machine step on the remaining input `rest` under stack `st`. -/
def step (rest : Bytes) (st : Stack) : Step :=
  match readHead rest with
  | .short => .needMore
  | .mk major ai arg hlen =>
    match action st.head? major ai arg hlen with
    | .bad => .bad
    | .leaf len => if rest.length < len then .needMore else finish len (itemDone st)
    | .push f => .cont hlen (f :: st)
    | .brk => finish hlen (itemDone st.tail)

/-- The machine on the suffix `rest` that starts at absolute position `pos`.
    Every step consumes at least one byte, so `fuel > rest.length` is always
    enough (`runS_fuel_irrel`); running out of fuel is reported as `bad`. -/
def runS : Nat → Bytes → Nat → Stack → Res
  | 0, _, _, _ => .bad
  | fuel + 1, rest, pos, st =>
    match step rest st with
    | .bad => .bad
    | .needMore => .needMore
    | .fin c => .ok (pos + c)
    | .cont c st' => runS fuel (rest.drop c) (pos + c) st'

/-- `run fuel b pos st`: the machine on input `b` from position `pos`. -/
def run (fuel : Nat) (b : Bytes) (pos : Nat) (st : Stack) : Res :=
  runS fuel (b.drop pos) pos st

/-- Is there exactly one well-formed item at the start of `b`, and how long is it? -/
def wfItem (b : Bytes) : Res := run (b.length + 1) b 0 []

/-- `n` consecutive well-formed items from the start of `rest` (which sits at
    absolute offset `pos`): their (offset, length) spans. -/
def spansDef : Nat → Bytes → Nat → Option (List (Nat × Nat))
  | 0, _, _ => some []
  | n + 1, rest, pos =>
    match wfItem rest with
    | .ok l => (spansDef n (rest.drop l) (pos + l)).map ((pos, l) :: ·)
    | _ => none

/-- items up to (not including) the break byte `0xff` -/
def spansIndef : Nat → Bytes → Nat → Option (List (Nat × Nat))
  | 0, _, _ => none
  | fuel + 1, rest, pos =>
    match rest with
    | [] => none
    | x :: _ =>
      if x = 0xff then some []
      else match wfItem rest with
        | .ok l => (spansIndef fuel (rest.drop l) (pos + l)).map ((pos, l) :: ·)
        | _ => none

/-- Direct children of the array (major 4) or map (major 5; keys and values
    alternate) at the start of `b`: (actual header length, spans relative to
    `b`, indefinite?). `none` if `b` does not start with a complete
    well-formed array/map. -/
def childSpans (b : Bytes) : Option (Nat × List (Nat × Nat) × Bool) :=
  match readHead b with
  | .short => none
  | .mk major ai arg hlen =>
    if major = 4 ∨ major = 5 then
      if ai = 31 then
        match spansIndef b.length (b.drop hlen) hlen with
        | none => none
        | some cs => if major = 5 ∧ cs.length % 2 = 1 then none else some (hlen, cs, true)
      else if 28 ≤ ai then none
      else (spansDef (if major = 4 then arg else 2 * arg) (b.drop hlen) hlen).map
             fun cs => (hlen, cs, false)
    else none

/-- `b[off .. off+len)` -/
def slice (b : Bytes) (off len : Nat) : Bytes := (b.drop off).take len

/-- The minimal header length for argument value `n` (what an encoder that
    always chooses the shortest form emits). -/
def minHeadLen (n : Nat) : Nat :=
  if n < 24 then 1 else if n < 256 then 2 else if n < 65536 then 3
  else if n < 4294967296 then 5 else 9

end GV.Cbor
