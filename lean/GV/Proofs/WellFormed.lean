import GV.Proofs.VersionData
/-!
The encoding of a well-formed version-data value passes the message-level check
(`wellFormedOne`): an honest peer's version data never makes a handshake message undecodable.
-/
namespace GV.Proofs.WellFormed
open GV.Model.VersionData GV.Proofs.VersionData

theorem wfRun_uint (f k n : Nat) (h : n < 18446744073709551616) (st : List (Option Nat)) (r : Bytes) :
    wfRun (f + 1) (some (k + 1) :: st) (encodeUint n ++ r) = wfRun f (some k :: st) r := by
  obtain ⟨b, t, he, hb, hr⟩ := readArg_encodeHead 0 n
  rw [encodeUint, he]
  have h1 : ¬ b = 255 := by omega
  simp [wfRun, h1, hb, hr h r, decFrame]

theorem wfRun_bool (f k : Nat) (b : Bool) (st : List (Option Nat)) (r : Bytes) :
    wfRun (f + 1) (some (k + 1) :: st) (encodeBool b ++ r) = wfRun f (some k :: st) r := by
  cases b <;> simp [encodeBool, wfRun, decFrame]

theorem wfRun_pop (f : Nat) (st : List (Option Nat)) (r : Bytes) :
    wfRun (f + 1) (some 0 :: st) r = wfRun f st r := by
  simp [wfRun]

theorem wfRun_done (f : Nat) (r : Bytes) : wfRun (f + 1) [] r = some r := by
  simp [wfRun]

theorem wfRun_head2 (f k : Nat) (st : List (Option Nat)) (r : Bytes) :
    wfRun (f + 1) (some (k + 1) :: st) (130 :: r) = wfRun f (some 2 :: some k :: st) r := by
  simp [wfRun, readArg, decFrame]

theorem wfRun_head4 (f k : Nat) (st : List (Option Nat)) (r : Bytes) :
    wfRun (f + 1) (some (k + 1) :: st) (132 :: r) = wfRun f (some 4 :: some k :: st) r := by
  simp [wfRun, readArg, decFrame]

theorem topTagValid_uint (f n : Nat) : topTagValid (f + 1) (encodeUint n) = true := by
  obtain ⟨b, t, he, hb⟩ := encodeUint_head n
  rw [he]
  have : ¬ (b / 32 = 6) := by omega
  simp [topTagValid, this]

/- `wfRun` spends one unit of fuel on each head it reads, on each exhausted frame it pops and on
   the empty stack at the end. A scalar takes 3 (itself, the initial frame, the end); an array of
   2 takes 6 and one of 4 takes 8 (its head, its items, its frame and the initial one, the end). -/
theorem wfRun_scalar {F : Nat} (hF : 3 ≤ F) (m : Nat) (hm : m < 18446744073709551616) :
    wfRun F [some 1] (encodeUint m) = some [] := by
  obtain ⟨f, rfl⟩ := Nat.exists_eq_add_of_le' hF
  have := wfRun_uint (f + 2) 0 m hm [] []
  rw [List.append_nil] at this
  rw [this, wfRun_pop, wfRun_done]

theorem wfRun_arr2 {F : Nat} (hF : 6 ≤ F) (m : Nat) (hm : m < 18446744073709551616) (b : Bool) :
    wfRun F [some 1] (130 :: (encodeUint m ++ encodeBool b)) = some [] := by
  obtain ⟨f, rfl⟩ := Nat.exists_eq_add_of_le' hF
  have hb := wfRun_bool (f + 3) 0 b [some 0] []
  rw [List.append_nil] at hb
  rw [wfRun_head2 (f + 5), wfRun_uint (f + 4) _ m hm, hb, wfRun_pop, wfRun_pop, wfRun_done]

theorem wfRun_arr4 {F : Nat} (hF : 8 ≤ F) (m p : Nat) (hm : m < 18446744073709551616)
    (hp : p < 18446744073709551616) (b c : Bool) :
    wfRun F [some 1] (132 :: (encodeUint m ++ encodeBool b ++ encodeUint p ++ encodeBool c)) =
      some [] := by
  obtain ⟨f, rfl⟩ := Nat.exists_eq_add_of_le' hF
  have hc := wfRun_bool (f + 3) 0 c [some 0] []
  rw [List.append_nil] at hc
  simp only [List.append_assoc]
  rw [wfRun_head4 (f + 7), wfRun_uint (f + 6) _ m hm, wfRun_bool (f + 5), wfRun_uint (f + 4) _ p hp, hc,
    wfRun_pop, wfRun_pop, wfRun_done]

theorem encode_wellFormed (d : VData) (hw : d.wf) : wellFormedOne (encode d) = true := by
  obtain ⟨k, m, dm, ps, q⟩ := d
  obtain ⟨hm, hp, _⟩ := hw
  simp only at hm hp
  have hm64 : m < 18446744073709551616 := by omega
  have hlm := encodeUint_length_pos m
  unfold wellFormedOne
  cases k <;> simp only [encode]
  · rw [wfRun_scalar (by omega) m hm64, topTagValid_uint]; rfl
  · rw [wfRun_arr2 (by simp only [List.length_cons]; omega) m hm64 q]; simp [topTagValid]
  · rw [wfRun_arr2 (by simp only [List.length_cons]; omega) m hm64 dm]; simp [topTagValid]
  all_goals
    rw [wfRun_arr4 (by simp only [List.length_cons, List.length_append]; omega) m ps hm64 hp dm q]
    simp [topTagValid]

end GV.Proofs.WellFormed
