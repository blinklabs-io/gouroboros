import GV.Model.ConnSetup
import GV.Gen.ConnProtocols
import GV.Gen.ConnSetupFacts
/-!
C17 — Connection roles and diffusion modes gate what is accepted.

A connection that negotiated initiator-only operation never delivers a peer request to a local
responder and closes with an error if one arrives, and a responder-only connection does the same
for responses. Mini-protocols are started only for the roles and versions that the negotiation
enabled, and an enabled protocol is always reachable through the connection.

`registered` / `muxMode` mirror `Connection.setupConnection`, `route` mirrors `Muxer.readLoop`.
-/
namespace GV.Props.C17
open GV.Model.ConnSetup

/-- Both ends asked for initiator-and-responder on a node-to-node connection. -/
def negotiatedDuplex (c : Cfg) : Bool := c.mode == .ntn && c.fullDuplex && !c.peerDM

theorem duplex_eq_negotiated (c : Cfg) : duplex c = negotiatedDuplex c := by
  unfold duplex hsFullDuplex negotiatedDuplex
  cases c.fullDuplex <;> cases c.peerDM <;> cases (c.mode == NetMode.ntn) <;> rfl

theorem mem_map_role (l : List Proto) (p : Proto) (r r0 : Role) :
    (p, r) ∈ l.map (fun n => (n, r0)) ↔ r = r0 ∧ p ∈ l := by
  rw [List.mem_map]
  exact ⟨fun ⟨_, hn, hq⟩ => by cases hq; exact ⟨rfl, hn⟩, fun ⟨hr, hp⟩ => ⟨p, hp, by rw [hr]⟩⟩

theorem mem_registered (c : Cfg) (p : Proto) (r : Role) :
    (p, r) ∈ registered c ↔
      (p = .handshake ∧ r = (if c.server then Role.responder else Role.initiator)) ∨
      (serverSide c = true ∧ r = .responder ∧ p ∈ constructed c) ∨
      (clientSide c = true ∧ c.delayStart = false ∧ r = .initiator ∧ p ∈ constructed c ∧
        (p ≠ .keepAlive ∨ c.sendKeepAlives = true)) := by
  unfold registered
  cases serverSide c <;> cases clientSide c <;> simp [mem_map_role, List.mem_filter]

/-! ### what the negotiation enabled (stated independently of `registered`) -/

def allProtos : List Proto :=
  [.handshake, .chainSyncNtN, .chainSyncNtC, .blockFetch, .txSubmission, .localTxSubmission,
   .localStateQuery, .keepAlive, .localTxMonitor, .peerSharing, .leiosNotify, .leiosFetch, .leiosVotes,
   .localMessageSubmission, .localMessageNotification]

theorem allProtos_complete (p : Proto) : p ∈ allProtos := by cases p <;> decide

/-- the mini-protocol belongs to the connection's mode and is enabled by the negotiated version -/
def protoEnabled (c : Cfg) : Proto → Bool
  | .chainSyncNtN | .blockFetch | .txSubmission | .leiosNotify | .leiosFetch | .leiosVotes => c.mode == .ntn
  | .keepAlive => c.mode == .ntn && c.keepAlive
  | .peerSharing => c.mode == .ntn && c.peerSharing
  | .chainSyncNtC | .localTxSubmission => c.mode == .ntc
  | .localStateQuery => c.mode == .ntc && c.localQuery
  | .localTxMonitor => c.mode == .ntc && c.localTxMonitor
  | .localMessageSubmission | .localMessageNotification => c.mode == .dmq
  | .handshake => false

/-- the role was negotiated: the local side's own role, or both when duplex was negotiated -/
def roleEnabled (c : Cfg) : Role → Bool
  | .initiator => !c.server || negotiatedDuplex c
  | .responder => c.server || negotiatedDuplex c

def enabled (c : Cfg) (p : Proto) (r : Role) : Bool :=
  (p == .handshake && r == (if c.server then Role.responder else Role.initiator)) ||
  (protoEnabled c p && roleEnabled c r &&
    -- the keep-alive client is only started on request (WithKeepAlive)
    !(p == .keepAlive && r == .initiator && !c.sendKeepAlives) &&
    -- with WithDelayProtocolStart the initiators register when the application starts them;
    -- the responders must be there from the outset
    !(r == .initiator && c.delayStart))

theorem mem_constructed (c : Cfg) (p : Proto) : p ∈ constructed c ↔ protoEnabled c p = true := by
  unfold constructed protoEnabled
  cases hm : c.mode <;> cases p <;> simp

/-- **Started only what was enabled, and everything that was enabled.** For every
    configuration, version-flag valuation, protocol and role: the (protocol, role) receiver is
    registered with the muxer after setup iff the negotiation enabled it. -/
theorem registered_iff_enabled (c : Cfg) (p : Proto) (r : Role) :
    (p, r) ∈ registered c ↔ enabled c p r = true := by
  rw [mem_registered, mem_constructed]
  unfold enabled roleEnabled serverSide clientSide
  rw [duplex_eq_negotiated]
  -- both sides combine the same atoms: per role and value of `c.server` a propositional tautology is left
  cases r <;> cases c.server <;> simp <;> grind

theorem registered_role {c : Cfg} {p : Proto} {r : Role} (h : (p, r) ∈ registered c) :
    roleEnabled c r = true := by
  rw [registered_iff_enabled, enabled, Bool.or_eq_true] at h
  rcases h with h | h
  · -- the handshake is registered in the local side's own role, which is always enabled
    cases hs : c.server <;> simp_all [roleEnabled]
  · -- for every other protocol `roleEnabled c r` is one of the conjuncts
    simp only [Bool.and_eq_true] at h
    exact h.1.1.2

/-! ### routing: the direction check of the muxer mode, then the receiver lookup -/

/-- `protocolReceivers[id][role]` of `Muxer.readLoop`: the inner `match` of `routeBy`, under a name
    so that `routeBy_eq` can state routing as the direction check followed by this lookup.
    Unlike `GV.Model.Muxer.lookup` (C09) it has no `ProtocolUnknown` catch-all: the connection
    set-up never registers one (the constant occurs in muxer/muxer.go only). -/
def lookup (idf : Proto → Option Nat) (c : Cfg) (id : Nat) (role : Role) : Routed :=
  match (registered c).find? (fun p => idf p.1 == some id && p.2 == role) with
  | some p => .deliver p.1 role
  | none => .unknown id

theorem routeBy_eq (idf : Proto → Option Nat) (c : Cfg) (field : Nat) :
    routeBy idf c field =
      if field ≥ 32768 then
        if muxMode c = .responder then .notInitiator else lookup idf c (field - 32768) .initiator
      else
        if muxMode c = .initiator then .notResponder else lookup idf c field .responder := by
  unfold routeBy lookup
  by_cases hf : field ≥ 32768
  · cases hm : muxMode c <;> simp [hf] <;> rfl
  · cases hm : muxMode c <;> simp [hf] <;> rfl

theorem lookup_deliver {idf : Proto → Option Nat} {c : Cfg} {id : Nat} {role r : Role} {name : Proto}
    (h : lookup idf c id role = .deliver name r) :
    (name, r) ∈ registered c ∧ r = role ∧ idf name = some id := by
  unfold lookup at h
  split at h
  · rename_i p hp
    simp only [Routed.deliver.injEq] at h
    obtain ⟨rfl, rfl⟩ := h
    have hprop := List.find?_some hp
    simp only [Bool.and_eq_true, beq_iff_eq] at hprop
    refine ⟨?_, rfl, hprop.1⟩
    rw [← hprop.2]
    exact List.mem_of_find?_eq_some hp
  · cases h

theorem lookup_unknown {idf : Proto → Option Nat} {c : Cfg} {id : Nat} {role : Role}
    (h : roleEnabled c role = false) : lookup idf c id role = .unknown id := by
  unfold lookup
  rw [List.find?_eq_none.mpr fun q hq hc => by
    simp only [Bool.and_eq_true, beq_iff_eq] at hc
    exact Bool.false_ne_true (h ▸ registered_role (p := q.1) (hc.2 ▸ hq))]

theorem lookup_own {idf : Proto → Nat} (hinj : ∀ a b, idf a = idf b → a = b) {c : Cfg} {p : Proto}
    {r : Role} (h : (p, r) ∈ registered c) :
    lookup (fun q => some (idf q)) c (idf p) r = .deliver p r := by
  unfold lookup
  cases hq : (registered c).find? (fun q => (some (idf q.1) == some (idf p)) && q.2 == r) with
  | none => exact absurd (List.find?_eq_none.mp hq (p, r) h) (by simp)
  | some q =>
    have hp := List.find?_some hq
    simp only [Bool.and_eq_true, beq_iff_eq, Option.some.injEq] at hp
    simp only [hinj _ _ hp.1]

/-- **Initiator-only.** On a connection that is not a server and did not negotiate duplex
    operation, a request segment (response bit clear) with any protocol id is never delivered:
    the muxer reports an error. For every id table and every version-flag valuation. -/
theorem initiator_only_never_delivers_request (ids : List (String × Nat)) (c : Cfg)
    (hs : c.server = false) (hd : negotiatedDuplex c = false) (field : Nat) (hf : field < 32768) :
    route ids c field = .notResponder ∨ route ids c field = .unknown field := by
  rw [route, routeBy_eq, if_neg (by omega)]
  by_cases hm : muxMode c = .initiator
  · left; rw [if_pos hm]
  · right; rw [if_neg hm]
    exact lookup_unknown (by simp [roleEnabled, hs, hd])

/-- **Responder-only.** Dually, on a server that did not negotiate duplex operation a response
    segment is never delivered. -/
theorem responder_only_never_delivers_response (ids : List (String × Nat)) (c : Cfg)
    (hs : c.server = true) (hd : negotiatedDuplex c = false) (field : Nat) (hf : field ≥ 32768) :
    route ids c field = .notInitiator ∨ route ids c field = .unknown (field - 32768) := by
  rw [route, routeBy_eq, if_pos hf]
  by_cases hm : muxMode c = .responder
  · left; rw [if_pos hm]
  · right; rw [if_neg hm]
    exact lookup_unknown (by simp [roleEnabled, hs, hd])

/-- Nothing is ever delivered to a (protocol, role) that is not registered, and what is delivered
    has the segment's id and direction. -/
theorem route_sound (ids : List (String × Nat)) (c : Cfg) (field : Nat) (name : Proto) (role : Role)
    (h : route ids c field = .deliver name role) :
    (name, role) ∈ registered c ∧
    role = (if field ≥ 32768 then Role.initiator else Role.responder) ∧
    idOf ids name.key = some (if field ≥ 32768 then field - 32768 else field) := by
  rw [route, routeBy_eq] at h
  by_cases hf : field ≥ 32768
  · rw [if_pos hf] at h
    simp only [hf, ↓reduceIte]
    by_cases hm : muxMode c = .responder
    · rw [if_pos hm] at h; cases h
    · rw [if_neg hm] at h; exact lookup_deliver h
  · rw [if_neg hf] at h
    simp only [hf, ↓reduceIte]
    by_cases hm : muxMode c = .initiator
    · rw [if_pos hm] at h; cases h
    · rw [if_neg hm] at h; exact lookup_deliver h

/-- segment header field that addresses role `r` of the protocol with id `id` -/
def fieldFor (id : Nat) : Role → Nat
  | .initiator => id + 32768
  | .responder => id

def idNat : Proto → Nat
  | .handshake => 0 | .chainSyncNtN => 2 | .chainSyncNtC => 5 | .blockFetch => 3 | .txSubmission => 4
  | .localTxSubmission => 6 | .localStateQuery => 7 | .keepAlive => 8 | .localTxMonitor => 9
  | .peerSharing => 10 | .leiosNotify => 18 | .leiosFetch => 19 | .leiosVotes => 20
  | .localMessageSubmission => 14 | .localMessageNotification => 15

/-- Regenerated tie: these are the ids of the running code's mini-protocol packages. -/
theorem ids_match (p : Proto) : idOf GV.Gen.ConnProtocols.ids p.key = some (idNat p) :=
  have : ∀ p ∈ allProtos, idOf GV.Gen.ConnProtocols.ids p.key = some (idNat p) := by decide +kernel
  this p (allProtos_complete p)

theorem idNat_inj (a b : Proto) (h : idNat a = idNat b) : a = b :=
  have : ∀ a ∈ allProtos, ∀ b ∈ allProtos, idNat a = idNat b → a = b := by decide
  this a (allProtos_complete a) b (allProtos_complete b) h

theorem idNat_lt (p : Proto) : idNat p < 32768 := by cases p <;> decide

theorem role_admitted {c : Cfg} {r : Role} (h : roleEnabled c r = true) :
    (r = .responder → muxMode c ≠ .initiator) ∧ (r = .initiator → muxMode c ≠ .responder) := by
  rw [roleEnabled.eq_def, ← duplex_eq_negotiated, duplex] at h
  unfold muxMode
  cases r <;> cases hs : c.server <;> cases hd : hsFullDuplex c <;> simp_all

/-- **An enabled protocol is always reachable**, for any id function that is injective on
    protocols and stays below the response flag: every registered (protocol, role) is delivered
    the segments that carry its id and the direction bit of its role. -/
theorem reachable_by (idf : Proto → Nat) (hinj : ∀ a b, idf a = idf b → a = b) (hlt : ∀ p, idf p < 32768)
    (c : Cfg) (p : Proto) (r : Role) (h : (p, r) ∈ registered c) :
    routeBy (fun q => some (idf q)) c (fieldFor (idf p) r) = .deliver p r := by
  have hadm := role_admitted (registered_role h)
  have hown := lookup_own hinj h
  rw [routeBy_eq]
  cases r with
  | initiator =>
    rw [fieldFor, if_pos (Nat.le_add_left _ _), if_neg (hadm.2 rfl), Nat.add_sub_cancel]
    exact hown
  | responder =>
    rw [fieldFor, if_neg (Nat.not_le.mpr (hlt p)), if_neg (hadm.1 rfl)]
    exact hown

/-- **An enabled protocol is always reachable**: with the protocol ids of the running code
    (regenerated), every registered (protocol, role) is delivered the segments that carry its id
    and the direction bit of its role — the muxer mode set by setupConnection admits the
    direction and no other receiver shadows it. -/
theorem enabled_reachable (c : Cfg) (p : Proto) (r : Role) (h : (p, r) ∈ registered c) :
    ∃ id, idOf GV.Gen.ConnProtocols.ids p.key = some id ∧ id < 32768 ∧
      route GV.Gen.ConnProtocols.ids c (fieldFor id r) = .deliver p r := by
  have hf : (fun p : Proto => idOf GV.Gen.ConnProtocols.ids p.key) = (fun p => some (idNat p)) :=
    funext ids_match
  refine ⟨idNat p, ids_match p, idNat_lt p, ?_⟩
  unfold route
  rw [hf]
  exact reachable_by idNat idNat_inj idNat_lt c p r h

/-! ### delayed start (WithDelayProtocolStart): before and after the application's Start() -/

/-- **Every enabled responder is registered when setupConnection returns — whatever the start
    options**: also with WithDelayProtocolStart, with or without WithKeepAlive. (A peer request
    that arrives before the application calls `Start()` is then buffered, not answered with
    "unknown protocol".) -/
theorem responders_registered_before_start (c : Cfg) (p : Proto)
    (hp : protoEnabled c p = true) (hr : roleEnabled c .responder = true) :
    (p, Role.responder) ∈ registered c := by
  rw [registered_iff_enabled]
  unfold enabled
  simp [hp, hr]

/-- … and reachable: the segment carrying its id, response bit clear, is delivered to it. -/
theorem responder_reachable_before_start (c : Cfg) (p : Proto)
    (hp : protoEnabled c p = true) (hr : roleEnabled c .responder = true) :
    ∃ id, idOf GV.Gen.ConnProtocols.ids p.key = some id ∧ id < 32768 ∧
      route GV.Gen.ConnProtocols.ids c id = .deliver p .responder :=
  -- `fieldFor id .responder` is `id`
  enabled_reachable c p .responder (responders_registered_before_start c p hp hr)

theorem protoEnabled_afterStart (c : Cfg) (p : Proto) : protoEnabled (afterStart c) p = protoEnabled c p := by
  cases p <;> rfl
theorem roleEnabled_afterStart (c : Cfg) (r : Role) : roleEnabled (afterStart c) r = roleEnabled c r := by
  cases r <;> rfl
theorem constructed_afterStart (c : Cfg) : constructed (afterStart c) = constructed c := rfl
theorem serverSide_afterStart (c : Cfg) : serverSide (afterStart c) = serverSide c := rfl
theorem clientSide_afterStart (c : Cfg) : clientSide (afterStart c) = clientSide c := rfl

/-- Once the application has started the protocols, every enabled initiator is registered too
    (the keep-alive client only with WithKeepAlive), and reachable (`enabled_reachable`). -/
theorem initiators_registered_after_start (c : Cfg) (p : Proto)
    (hp : protoEnabled c p = true) (hr : roleEnabled c .initiator = true)
    (hk : p = .keepAlive → c.sendKeepAlives = true) :
    (p, Role.initiator) ∈ registered (afterStart c) := by
  rw [registered_iff_enabled]
  have hd : (afterStart c).delayStart = false := rfl
  have hs : (afterStart c).sendKeepAlives = c.sendKeepAlives := rfl
  unfold enabled
  rw [protoEnabled_afterStart, roleEnabled_afterStart, hp, hr, hd, hs]
  by_cases hka : p = .keepAlive
  · rw [hk hka]; simp
  · simp [hka]

/-- Starting never unregisters anything. -/
theorem registered_mono_start (c : Cfg) (p : Proto) (r : Role) (h : (p, r) ∈ registered c) :
    (p, r) ∈ registered (afterStart c) := by
  have hd : (afterStart c).delayStart = false := rfl
  have hs : (afterStart c).sendKeepAlives = c.sendKeepAlives := rfl
  have hv : (afterStart c).server = c.server := rfl
  rw [mem_registered] at h ⊢
  rw [constructed_afterStart, serverSide_afterStart, clientSide_afterStart, hd, hs, hv]
  rcases h with h | h | ⟨h1, _, h2⟩
  · exact Or.inl h
  · exact Or.inr (Or.inl h)
  · exact Or.inr (Or.inr ⟨h1, rfl, h2⟩)

/-! ### regenerated tie: the registration / start blocks of setupConnection (go/ast) -/

def allOn (m : NetMode) : Cfg :=
  { server := true, mode := m, fullDuplex := true, sendKeepAlives := true, peerDM := false,
    keepAlive := true, peerSharing := true, localQuery := true, localTxMonitor := true }
def allOff (m : NetMode) : Cfg :=
  { server := true, mode := m, fullDuplex := true, sendKeepAlives := false, peerDM := false,
    keepAlive := false, peerSharing := false, localQuery := false, localTxMonitor := false }

/-- the Connection field a mini-protocol lives in -/
def fieldOf : Proto → String
  | .handshake => "handshake" | .chainSyncNtN => "chainSync" | .chainSyncNtC => "chainSync"
  | .blockFetch => "blockFetch" | .txSubmission => "txSubmission"
  | .localTxSubmission => "localTxSubmission" | .localStateQuery => "localStateQuery"
  | .keepAlive => "keepAlive" | .localTxMonitor => "localTxMonitor" | .peerSharing => "peerSharing"
  | .leiosNotify => "leiosNotify" | .leiosFetch => "leiosFetch" | .leiosVotes => "leiosVotes"
  | .localMessageSubmission => "localMessageSubmission"
  | .localMessageNotification => "localMessageNotification"

def branchName : NetMode → String | .ntn => "ntn" | .ntc => "ntc" | .dmq => "dmq"

/-- a protocol whose construction depends on a version flag is guarded by its own nil check,
    nothing else; the model decides which protocols those are -/
def nilGuard (m : NetMode) (p : Proto) : String :=
  if p ∈ constructed (allOff m) then "" else "c." ++ fieldOf p ++ " != nil"

/-- the client start is additionally guarded by WithKeepAlive exactly where the model's
    `registered` drops the initiator without it -/
def clientGuard (m : NetMode) (p : Proto) : String :=
  if (p, Role.initiator) ∈ registered { allOn m with server := false, sendKeepAlives := false } then nilGuard m p
  else nilGuard m p ++ " && c.sendKeepAlives"

/-- what the model says the three blocks of each mode branch of setupConnection look like -/
def expectedCalls : List (String × String × String × String × String × String) :=
  [NetMode.ntn, NetMode.dmq, NetMode.ntc].flatMap fun m =>
    ((constructed (allOn m)).map fun p =>
      (branchName m, "(c.fullDuplex && handshakeFullDuplex) || c.server", fieldOf p, "Server",
        "EnsureRegistered", nilGuard m p)) ++
    ((constructed (allOn m)).map fun p =>
      (branchName m, "!c.delayProtocolStart ; (c.fullDuplex && handshakeFullDuplex) || !c.server", fieldOf p,
        "Client", "Start", clientGuard m p)) ++
    ((constructed (allOn m)).map fun p =>
      (branchName m, "!c.delayProtocolStart ; (c.fullDuplex && handshakeFullDuplex) || c.server", fieldOf p,
        "Server", "Start", nilGuard m p))

/-- **Regenerated tie.** Every `EnsureRegistered` / `Start` call of setupConnection, with the
    conditions it stands under (read off connection.go on every run), is exactly what the model
    prescribes: responders are registered early under the role condition alone and their own nil
    check — in particular not under `delayProtocolStart` and not under `sendKeepAlives` —; both
    start blocks are under `!c.delayProtocolStart`; only the keep-alive client asks for
    `sendKeepAlives`. -/
theorem roleCalls_as_modelled :
    (∀ e ∈ GV.Gen.ConnSetupFacts.roleCalls, e ∈ expectedCalls) ∧
    (∀ e ∈ expectedCalls, e ∈ GV.Gen.ConnSetupFacts.roleCalls) := by
  decide +kernel

/-- The muxer constants of the running code are the ones the model's `MuxMode` stands for. -/
theorem mux_constants :
    GV.Gen.ConnProtocols.responseFlag = 32768 ∧ GV.Gen.ConnProtocols.muxModeInitiator = 1 ∧
    GV.Gen.ConnProtocols.muxModeResponder = 2 ∧ GV.Gen.ConnProtocols.muxModeBoth = 3 := by decide

/-- Non-vacuity: an initiator-only NtN client (keep-alive requested, version with keep-alive and
    peer sharing) registers exactly its client roles. -/
example : registered ⟨false, .ntn, false, true, true, true, true, false, false, false⟩ =
    [(.handshake, .initiator), (.chainSyncNtN, .initiator), (.blockFetch, .initiator), (.txSubmission, .initiator),
     (.keepAlive, .initiator), (.peerSharing, .initiator), (.leiosNotify, .initiator), (.leiosFetch, .initiator),
     (.leiosVotes, .initiator)] := by decide

/-- Non-vacuity: duplex is negotiated only when both ends ask for it. -/
example : negotiatedDuplex ⟨false, .ntn, true, false, false, true, true, false, false, false⟩ = true ∧
          negotiatedDuplex ⟨false, .ntn, false, false, false, true, true, false, false, false⟩ = false ∧
          negotiatedDuplex ⟨false, .ntc, true, false, false, false, false, true, true, false⟩ = false := by decide

end GV.Props.C17
