import GV.Model.BodyHash
/-!
What the body hash binds (C34): with an injective digest and a head-decodable digest encoding,
equal body hashes mean equal covered segments.
-/
namespace GV.Proofs.BodyHash
open GV.Model.BodyHash

/-- A digest encoding is *head-decodable* when the digest can be read off the front of any
    byte string that starts with its encoding (injective and prefix-free). Fixed-length
    injective encodings (32 raw bytes) have this property; so do length-prefixed ones. -/
def HeadDecodable {D : Type} (enc : D → Bytes) : Prop :=
  ∀ d d' r r', enc d ++ r = enc d' ++ r' → d = d'

def Inj {α β : Type} (f : α → β) : Prop := ∀ a b, f a = f b → a = b

theorem headDecodable_of_fixed {D : Type} (enc : D → Bytes) (L : Nat)
    (hinj : Inj enc) (hlen : ∀ d, (enc d).length = L) : HeadDecodable enc := by
  intro d d' r r' h
  have hl : (enc d).length = (enc d').length := by rw [hlen, hlen]
  exact hinj _ _ (List.append_inj h hl).1

theorem flatten_inj (S : Bytes → Prop)
    (hS : ∀ a b r r', S a → S b → a ++ r = b ++ r' → a = b) :
    ∀ (l l' : List Bytes), (∀ x ∈ l, S x) → (∀ x ∈ l', S x) → l.length = l'.length →
      l.flatten = l'.flatten → l = l' := by
  intro l
  induction l with
  | nil => intro l' _ _ hl _; cases l' with
    | nil => rfl
    | cons _ _ => simp at hl
  | cons a t ih =>
    intro l' h1 h2 hl h
    cases l' with
    | nil => simp at hl
    | cons b t' =>
      simp only [List.flatten_cons] at h
      obtain rfl : a = b := hS a b _ _ (h1 a (by simp)) (h2 b (by simp)) h
      simp only [List.length_cons, Nat.add_right_cancel_iff] at hl
      rw [ih t' (fun x hx => h1 x (by simp [hx])) (fun x hx => h2 x (by simp [hx])) hl
        (List.append_cancel_left h)]

theorem flatten_map_inj {D : Type} (enc : D → Bytes) (hd : HeadDecodable enc) :
    ∀ (l l' : List D), l.length = l'.length →
      (l.map enc).flatten = (l'.map enc).flatten → l = l' := by
  intro l l' hl h
  have hm := flatten_inj (fun x => ∃ d, enc d = x)
    (fun a b r r' ⟨d, hd1⟩ ⟨d', hd2⟩ hab => by subst hd1 hd2; rw [hd _ _ _ _ hab])
    (l.map enc) (l'.map enc) (by simp) (by simp) (by simpa using hl) h
  exact (List.map_inj_right fun x y hxy => hd x y [] [] (by rw [hxy])).mp hm

theorem covered_eq_of_bodyHash_eq {D : Type} (P : Prims D)
    (hh : Inj P.h) (he : HeadDecodable P.enc) (s s' : List Bytes) (n : Nat)
    (hs : n ≤ s.length) (hs' : n ≤ s'.length)
    (h : bodyHash P s n = bodyHash P s' n) :
    (s.take n).drop 1 = (s'.take n).drop 1 := by
  unfold bodyHash segDigests at h
  have h1 := hh _ _ h
  have hl : (((s.take n).drop 1).map P.h).length = (((s'.take n).drop 1).map P.h).length := by
    simp only [List.length_map, List.length_drop, List.length_take]
    omega
  have h2 := flatten_map_inj P.enc he _ _ hl h1
  exact (List.map_inj_right hh).mp h2

theorem take_eq_of_covered_eq {s s' : List Bytes} {n : Nat} (hs : n ≤ s.length) (hs' : n ≤ s'.length)
    (hhdr : s'.headD [] = s.headD []) (hcov : (s.take n).drop 1 = (s'.take n).drop 1) :
    s'.take n = s.take n := by
  match n, s, s' with
  | 0, _, _ => rfl
  | n + 1, a :: t, a' :: t' =>
    simp only [List.headD_cons] at hhdr
    simp only [List.take_succ_cons, List.drop_succ_cons, List.drop_zero] at hcov ⊢
    rw [hhdr, hcov]

theorem lookup_const {β : Type} (v : β) (l : List (String × β)) (k : String)
    (hall : ∀ p ∈ l, p.2 = v) (hk : k ∈ l.map (·.1)) : l.lookup k = some v := by
  cases h : l.lookup k with
  | none =>
    obtain ⟨p, hp, rfl⟩ := List.mem_map.mp hk
    simpa using List.lookup_eq_none_iff.mp h p hp
  | some b =>
    obtain ⟨l₁, l₂, rfl, _⟩ := List.lookup_eq_some_iff.mp h
    rw [← hall (k, b) (by simp)]

/-- Acceptance with validation on, unfolded. Here and in the next two: no exit value before the
    last is `.ok`, so each guard on the way is false and the last test holds. -/
theorem decodeSegwit_ok {D : Type} [DecidableEq D] {P : Prims D} {E : Era} {wf : List Bytes → Bool}
    {expOf : Bytes → Option D} {segs : List Bytes} (h : decodeSegwit P E wf expOf false segs = .ok) :
    structOK E wf segs = true ∧ ∃ e, expOf (segs.headD []) = some e ∧
      E.segCount ≤ segs.length ∧ bodyHash P segs E.segCount = e := by
  grind [decodeSegwit, validateBlockBodyHash]

theorem decodeDijkstra_ok {D : Type} [DecidableEq D] {P : Prims D} {arity : Nat} {wf : List Bytes → Bool}
    {expOf : Bytes → Option D} {s : List Bytes} (h : decodeDijkstra P arity wf expOf false s = .ok) :
    s.length = arity ∧ expOf (s.headD []) = some (P.h (s.getD 1 [])) := by
  grind [decodeDijkstra]

theorem decodeEbb_ok {D : Type} [DecidableEq D] {P : Prims D} {wf : List Bytes → Bool}
    {expOf : Bytes → Option D} {s : List Bytes} (h : decodeEbb P wf expOf false s = .ok) :
    2 ≤ s.length ∧ expOf (s.headD []) = some (P.h (s.getD 1 [])) := by
  grind [decodeEbb]

/-- `h`, `h'`: acceptance by a decoder that compares ONE hash, that of element 1, with the
    header's commitment. -/
theorem one_hash_binds {D : Type} {P : Prims D} (hh : Inj P.h) {expOf : Bytes → Option D}
    {s s' : List Bytes} (hhdr : s'.headD [] = s.headD [])
    (h : expOf (s.headD []) = some (P.h (s.getD 1 [])))
    (h' : expOf (s'.headD []) = some (P.h (s'.getD 1 []))) : s'.getD 1 [] = s.getD 1 [] := by
  rw [hhdr, h] at h'
  exact (hh _ _ (Option.some.inj h')).symm

end GV.Proofs.BodyHash
