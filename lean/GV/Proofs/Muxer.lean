import GV.Model.Muxer
import GV.Proofs.StepSystem
/-
  The byte-at-a-time reader agrees with the reference parser (`feed_eq_parse`); the run-time
  machine `MState.act`, fed with data only, is the reader followed by routing (`mstateOf`).
-/
namespace GV.Proofs.Muxer
open GV.Model.Muxer

theorem feed_nil (s : RState) : feed s [] = s := rfl
theorem feed_cons (s : RState) (b : UInt8) (t : Bytes) : feed s (b :: t) = feed (s.step b) t := rfl
theorem feed_append (s : RState) (a b : Bytes) : feed s (a ++ b) = feed (feed s a) b := by
  simp [feed, List.foldl_append]

theorem feed_halted (rout : List Seg) (bs : Bytes) : feed ⟨.halted, rout⟩ bs = ⟨.halted, rout⟩ :=
  GV.StepSystem.foldl_fixed (fun b => by simp [RState.step, stepByte]) bs

/-- `mk` is `.hdr` or `.pay ts pid`: both reader phases count down `need` in the same way. -/
theorem feed_partial (mk : Nat → Bytes → Phase)
    (hmk : ∀ need racc b, 1 < need → stepByte (mk need racc) b = (mk (need - 1) (b :: racc), none))
    (bs : Bytes) (need : Nat) (racc : Bytes) (rout : List Seg) (h : bs.length < need) :
    feed ⟨mk need racc, rout⟩ bs = ⟨mk (need - bs.length) (bs.reverse ++ racc), rout⟩ := by
  induction bs generalizing need racc with
  | nil => simp [feed_nil]
  | cons b t ih =>
    simp only [List.length_cons] at h
    rw [feed_cons, RState.step, hmk need racc b (by omega), ih (need - 1) (b :: racc) (by omega)]
    simp only [List.length_cons, List.reverse_cons, List.append_assoc, List.singleton_append,
      Nat.sub_sub, Nat.add_comm]

theorem hdr_step (need : Nat) (racc : Bytes) (b : UInt8) (h : 1 < need) :
    stepByte (.hdr need racc) b = (.hdr (need - 1) (b :: racc), none) := by
  simp [stepByte, Nat.not_le.mpr h]

theorem pay_step (ts pid need : Nat) (racc : Bytes) (b : UInt8) (h : 1 < need) :
    stepByte (.pay ts pid need racc) b = (.pay ts pid (need - 1) (b :: racc), none) := by
  simp [stepByte, Nat.not_le.mpr h]

theorem feed_hdr_complete (bs : Bytes) (rout : List Seg) (h : bs.length = 8) :
    feed ⟨.hdr 8 [], rout⟩ bs =
      (if (hdrOf bs).2.2 = 0 then ⟨.halted, rout⟩
       else ⟨.pay (hdrOf bs).1 (hdrOf bs).2.1 (hdrOf bs).2.2 [], rout⟩) := by
  obtain ⟨l, b, rfl⟩ : ∃ l b, bs = l ++ [b] := by
    simpa using (List.eq_nil_or_concat bs).resolve_left (by intro h0; simp [h0] at h)
  have hl : l.length = 7 := by simpa using h
  rw [feed_append, feed_partial .hdr hdr_step l 8 [] rout (by omega), hl]
  by_cases hz : (hdrOf (l ++ [b])).2.2 = 0 <;> simp [feed_cons, feed_nil, RState.step, stepByte, hz]

theorem feed_pay_complete (bs : Bytes) (ts pid need : Nat) (rout : List Seg)
    (h : bs.length = need) (h1 : 1 ≤ need) :
    feed ⟨.pay ts pid need [], rout⟩ bs = ⟨.hdr 8 [], ⟨ts, pid, bs⟩ :: rout⟩ := by
  obtain ⟨l, b, rfl⟩ : ∃ l b, bs = l ++ [b] := by
    simpa using (List.eq_nil_or_concat bs).resolve_left (by intro h0; simp [h0] at h; omega)
  have hl : need - l.length = 1 := by simp at h; omega
  rw [feed_append, feed_partial (.pay ts pid) (pay_step ts pid) l need [] rout (by simp at h; omega), hl]
  simp [feed_cons, feed_nil, RState.step, stepByte]

/-! ### The three equations of the reference parser -/

theorem parse_nil : parse [] = ([], End.eofHeader) := by rw [parse]; simp

theorem parse_short (w : Bytes) (h0 : w ≠ []) (h8 : w.length < 8) : parse w = ([], End.shortHeader) := by
  rw [parse, if_neg (by simpa using h0), if_pos h8]

theorem parse_append (hb rest : Bytes) (h : hb.length = 8) :
    parse (hb ++ rest) =
      let (ts, pid, len) := hdrOf hb
      if len = 0 then ([], .zeroLen)
      else if rest.isEmpty then ([], .eofPayload)
      else if rest.length < len then ([], .shortPayload)
      else (⟨ts, pid, rest.take len⟩ :: (parse (rest.drop len)).1, (parse (rest.drop len)).2) := by
  have hne : hb ++ rest ≠ [] := by intro e; simp [List.append_eq_nil_iff.mp e |>.1] at h
  rw [parse, if_neg (by simpa using hne), if_neg (by simp [h]), List.take_left' h, List.drop_left' h]

theorem feed_eq_parse (w : Bytes) : ∀ (rout : List Seg),
    (feed ⟨.hdr 8 [], rout⟩ w).result = (rout.reverse ++ (parse w).1, (parse w).2) := by
  induction hn : w.length using Nat.strongRecOn generalizing w with
  | ind n ih =>
    intro rout
    by_cases h0 : w = []
    · subst h0
      simp [feed_nil, parse_nil, RState.result, endOf]
    · by_cases h8 : w.length < 8
      · rw [parse_short w h0 h8, feed_partial .hdr hdr_step w 8 [] rout h8]
        have : ¬ (8 - w.length = 8) := by have := List.length_pos_iff.mpr h0; omega
        simp [RState.result, endOf, this]
      · obtain ⟨hb, rest, rfl, hlen⟩ : ∃ hb rest, w = hb ++ rest ∧ hb.length = 8 :=
          ⟨w.take 8, w.drop 8, (List.take_append_drop 8 w).symm, by simp; omega⟩
        rw [parse_append hb rest hlen, feed_append, feed_hdr_complete hb rout hlen]
        generalize hdrOf hb = hd
        obtain ⟨ts, pid, len⟩ := hd
        by_cases hl : len = 0
        · simp [hl, feed_halted, RState.result, endOf]
        · simp only [hl, ↓reduceIte]
          by_cases hr0 : rest = []
          · simp [hr0, feed_nil, RState.result, endOf]
          · rw [if_neg (by simpa using hr0)]
            by_cases hrl : rest.length < len
            · rw [if_pos hrl, feed_partial (.pay ts pid) (pay_step ts pid) rest len [] rout hrl]
              simp [RState.result, endOf, hr0]
            · obtain ⟨pl, rest', rfl, hpl⟩ : ∃ pl rest', rest = pl ++ rest' ∧ pl.length = len :=
                ⟨rest.take len, rest.drop len, (List.take_append_drop len rest).symm, by simp; omega⟩
              rw [if_neg hrl, feed_append, feed_pay_complete pl ts pid len rout hpl (by omega),
                List.take_left' hpl, List.drop_left' hpl,
                ih _ (by simp only [List.length_append] at hn; omega) rest' rfl]
              simp

/-! ### Framing round-trip -/

theorem two_digits (b n : Nat) : n / b % b * b + n % b = n % (b * b) := by
  rw [Nat.mod_mul, Nat.mul_comm, Nat.add_comm]

theorem be16_val (n : Nat) :
    b2n (UInt8.ofNat (n / 256 % 256)) * 256 + b2n (UInt8.ofNat (n % 256)) = n % 65536 := by
  simp only [b2n, UInt8.toNat_ofNat', Nat.reducePow, Nat.mod_mod]
  exact two_digits 256 n

theorem hdrOf_enc (ts pid len : Nat) (hts : ts < 4294967296) (hpid : pid < 65536) (hlen : len < 65536) :
    hdrOf (be32 ts ++ be16 pid ++ be16 len) = (ts, pid, len) := by
  -- the four timestamp bytes are two 16-bit halves, each two base-256 digits
  have h32 : ((b2n (UInt8.ofNat (ts / 16777216 % 256)) * 256 + b2n (UInt8.ofNat (ts / 65536 % 256))) * 256 +
      b2n (UInt8.ofNat (ts / 256 % 256))) * 256 + b2n (UInt8.ofNat (ts % 256)) = ts := by
    have e : ts / 16777216 = ts / 65536 / 256 := by rw [Nat.div_div_eq_div_mul]
    rw [Nat.add_mul, Nat.mul_assoc, Nat.add_assoc, be16_val ts, e, be16_val (ts / 65536)]
    exact (two_digits 65536 ts).trans (Nat.mod_eq_of_lt hts)
  simp only [be32, be16, List.cons_append, List.nil_append, hdrOf, h32, be16_val,
    Nat.mod_eq_of_lt hpid, Nat.mod_eq_of_lt hlen]

theorem encSeg_length (s : Seg) : (encSeg s).length = 8 + s.payload.length := by
  simp [encSeg, be32, be16]; omega

def SegOk (s : Seg) : Prop :=
  s.ts < 4294967296 ∧ s.pid < 65536 ∧ 0 < s.payload.length ∧ s.payload.length ≤ 65535

theorem parse_encSeg (s : Seg) (rest : Bytes) (h : SegOk s) :
    parse (encSeg s ++ rest) = (s :: (parse rest).1, (parse rest).2) := by
  obtain ⟨hts, hpid, hpos, hmax⟩ := h
  rw [encSeg, List.append_assoc, parse_append _ _ rfl, hdrOf_enc _ _ _ hts hpid (by omega)]
  simp only
  rw [if_neg (by omega), if_neg (by simpa using fun h => absurd h (List.ne_nil_of_length_pos hpos)),
    if_neg (by simp), List.take_left' rfl, List.drop_left' rfl]

theorem parse_flatMap (segs : List Seg) (tail : Bytes) (h : ∀ s ∈ segs, SegOk s) :
    parse (segs.flatMap encSeg ++ tail) = (segs ++ (parse tail).1, (parse tail).2) := by
  induction segs with
  | nil => simp
  | cons s t ih =>
    simp only [List.flatMap_cons, List.append_assoc]
    rw [parse_encSeg s _ (h s (by simp)), ih (fun x hx => h x (by simp [hx]))]
    simp

/-! ### Routing -/

theorem routeAll_all_deliver (c : Cfg) (segs : List Seg) (key : Seg → Nat × Role)
    (h : ∀ s ∈ segs, route c s.pid = .deliver (key s).1 (key s).2) :
    routeAll c segs = (segs.map (fun s => (key s, s.payload)), none) := by
  induction segs with
  | nil => rfl
  | cons s t ih =>
    have hs := h s (by simp)
    simp only [routeAll, hs, List.map_cons]
    rw [ih (fun x hx => h x (by simp [hx]))]

/-! ### Interleavings -/

/-- `w` is an interleaving of the lists `ls`: built by repeatedly removing the head of
    one of the lists (what concurrent senders serialised by the send mutex produce). -/
inductive Interleaving {α : Type} : List (List α) → List α → Prop
  | done (ls : List (List α)) : (∀ l ∈ ls, l = []) → Interleaving ls []
  | pick (ls : List (List α)) (i : Nat) (a : α) (t : List α) (w : List α) :
      ls[i]? = some (a :: t) → Interleaving (ls.set i t) w → Interleaving ls (a :: w)

theorem forall_set_tail {α : Type} {Q : Nat → α → Prop} {ls : List (List α)} {j : Nat} {a : α}
    {t : List α} (hj : ls[j]? = some (a :: t)) (h : ∀ i l, ls[i]? = some l → ∀ x ∈ l, Q i x) :
    ∀ i l, (ls.set j t)[i]? = some l → ∀ x ∈ l, Q i x := by
  intro i l hl x hx
  by_cases hji : j = i
  · subst hji
    rw [List.getElem?_set_self (List.getElem?_eq_some_iff.mp hj).1] at hl
    cases hl
    exact h j _ hj x (List.mem_cons_of_mem _ hx)
  · rw [List.getElem?_set_ne hji] at hl
    exact h i l hl x hx

theorem interleaving_forall {α : Type} {Q : α → Prop} {ls : List (List α)} {w : List α}
    (hi : Interleaving ls w) (h : ∀ (i : Nat) l, ls[i]? = some l → ∀ x ∈ l, Q x) : ∀ x ∈ w, Q x := by
  induction hi with
  | done => nofun
  | pick ls k a t w hk _ ih =>
    intro b hb
    rcases List.mem_cons.mp hb with rfl | hb
    · exact h k _ hk b List.mem_cons_self
    · exact ih (forall_set_tail (Q := fun _ => Q) hk h) b hb

theorem interleaving_filter {α : Type} (p : α → Bool) {ls : List (List α)} {w : List α}
    (hi : Interleaving ls w) (i : Nat)
    (hp : ∀ (j : Nat) (l : List α), ls[j]? = some l → ∀ a ∈ l, p a = decide (j = i)) :
    ∀ (l : List α), ls[i]? = some l → w.filter p = l := by
  induction hi with
  | done ls hall =>
    intro l hl
    simp [hall l (List.mem_of_getElem? hl)]
  | pick ls j a t w hj _ ih =>
    intro l hl
    have hjlt : j < ls.length := (List.getElem?_eq_some_iff.mp hj).1
    have hpa := hp j _ hj a List.mem_cons_self
    have ih := ih (forall_set_tail hj hp)
    by_cases hji : j = i
    · subst hji
      cases hj.symm.trans hl
      rw [List.filter_cons_of_pos (by simpa using hpa), ih t (List.getElem?_set_self hjlt)]
    · rw [List.filter_cons_of_neg (by simpa [hji] using hpa),
        ih l (by rwa [List.getElem?_set_ne hji])]

/-! ### The run-time machine under fixed registrations

  `mstateOf` turns a reader state into the machine state with the same registrations; a `data` act
  commutes with it (`act_data_mstateOf`).  For that, the reader's output is split into what was
  there before a chunk and what the chunk adds (`feed_acc`), and routed piecewise
  (`routeAll_append`). -/

theorem feed_acc (chunk : Bytes) (p : Phase) (rout : List Seg) :
    feed ⟨p, rout⟩ chunk = ⟨(feed ⟨p, []⟩ chunk).phase, (feed ⟨p, []⟩ chunk).rout ++ rout⟩ :=
  -- appending `rout` to the output commutes with a step, hence with the fold
  List.foldl_hom (fun s : RState => (⟨s.phase, s.rout ++ rout⟩ : RState)) (g₁ := RState.step)
    (init := ⟨p, []⟩) fun s b => by
      simp only [RState.step]
      cases stepByte s.phase b with
      | mk p' o => cases o <;> rfl

theorem routeAll_append (c : Cfg) (a b : List Seg) :
    routeAll c (a ++ b) =
      match routeAll c a with
      | (ds, some e) => (ds, some e)
      | (ds, none) => (ds ++ (routeAll c b).1, (routeAll c b).2) := by
  induction a with
  | nil => simp [routeAll]
  | cons s t ih =>
    simp only [List.cons_append, routeAll]
    cases hr : route c s.pid with
    | err e => simp
    | deliver k r =>
      simp only [ih]
      cases hra : routeAll c t with
      | mk ds oe => cases oe <;> simp

def mstateOf (c : Cfg) (R : RState) : MState :=
  match routeAll c R.rout.reverse with
  | (ds, some e) => ⟨.halted, c.regs, ds.reverse, some e⟩
  | (ds, none) => ⟨R.phase, c.regs, ds.reverse, if R.phase = .halted then some .zeroLen else none⟩

theorem act_data_mstateOf (c : Cfg) (R : RState) (ch : Bytes) :
    MState.act c.mode (mstateOf c R) (.data ch) = mstateOf c (feed R ch) := by
  obtain ⟨P, rout⟩ := R
  rw [feed_acc ch P rout]
  unfold mstateOf
  simp only [List.reverse_append, routeAll_append]
  cases hra : routeAll c rout.reverse with
  | mk D oe =>
    cases oe with
    | some e => simp [MState.act]
    | none =>
      by_cases hP : P = Phase.halted
      · subst hP
        simp [MState.act, feed_halted, routeAll]
      · simp only [MState.act, hP, ↓reduceIte]
        cases hrb : routeAll c (feed ⟨P, []⟩ ch).rout.reverse with
        | mk ds oe2 => cases oe2 <;> simp [List.reverse_append]

theorem fold_data_mstateOf (c : Cfg) (chunks : List Bytes) (R : RState) :
    (chunks.map Act.data).foldl (MState.act c.mode) (mstateOf c R) = mstateOf c (feedAll R chunks) := by
  rw [List.foldl_map]
  exact List.foldl_hom (mstateOf c) fun R ch => act_data_mstateOf c R ch

end GV.Proofs.Muxer
