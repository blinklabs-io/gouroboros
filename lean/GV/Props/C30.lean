import GV.Model.Fee
import GV.Gen.GoLite
import GV.Gen.RuleLists
import GV.Gen.G1Rules
import GV.Proofs.CborSpans
import GV.Proofs.GoLite
/-!
C30 — The minimum fee and size limits use the transaction's real size.

Fee validation accepts a transaction only if its fee is at least a·size + b,
where size is the length of the transaction's original encoding minus one byte
for the four-element Alonzo-to-Conway envelope. Arithmetic overflow is reported
as an error, never wrapped, and the maximum-size rule compares that same
original length with the protocol limit.
-/
namespace GV.Props.C30
open GV.Model.Fee GV.Gen.GoLite

/-- (R) The Go function `CalculateMinFee`, as translated from the source on this run,
    for every size a Go `int` length can take and every `uint` parameter pair:
    the exact value a·s+b when it fits 64 bits, the error result otherwise. -/
theorem calc_core (s a b : Nat) (hs : s < 2^63) (ha : a < 2^64) (hb : b < 2^64) :
    calculateMinFee s a b =
      if a * s + b < 2^64 then (((a * s + b : Nat) : Int), false) else (0, true) := by
  have hw (x : Nat) (hx : x < 2^64) : wrapU 64 (x:Int) = x := GV.Proofs.GoLite.wrapU_of_lt (by omega) (by omega)
  simp only [calculateMinFee, hw s (by omega), hw a ha, hw b hb, Int.add_zero, show ¬ ((s:Int) < 0) by omega,
    decide_false, Bool.false_eq_true, if_false, decide_eq_true_eq, ne_eq, Int.reducePow, Nat.reducePow,
    ← Int.natCast_mul]
  generalize a * s = p
  by_cases h : p + b < 18446744073709551616
  · -- neither guard fires: the high word and the carry are 0, and the low words add up exactly
    rw [if_pos h, if_neg (by omega), if_neg (by omega)]
    congr 1
    omega
  · -- the high word of the product is not 0, or else the addition carries
    rw [if_neg h]
    split
    · rfl
    · rw [if_pos (by omega)]

/-- Exact when it fits. -/
theorem minFee_exact (s a b : Nat) (hs : s < 2^63) (ha : a < 2^64) (hb : b < 2^64)
    (h : a * s + b < 2^64) :
    calculateMinFee s a b = (((a * s + b : Nat) : Int), false) := by
  rw [calc_core s a b hs ha hb, if_pos h]

/-- Overflow is an error, never a wrapped value. -/
theorem minFee_overflow (s a b : Nat) (hs : s < 2^63) (ha : a < 2^64) (hb : b < 2^64)
    (h : a * s + b ≥ 2^64) :
    calculateMinFee s a b = (0, true) := by
  rw [calc_core s a b hs ha hb, if_neg (by omega)]

/-- A negative size is an error as well (first guard of the Go function). -/
theorem minFee_negative (s a b : Int) (hs : s < 0) : calculateMinFee s a b = (0, true) := by
  unfold calculateMinFee
  simp [hs]

/-- (R) The hand model used by the driver is the generated function. -/
theorem gen_eq_model (s a b : Nat) (hs : s < 2^63) (ha : a < 2^64) (hb : b < 2^64) :
    calculateMinFee s a b =
      (match minFee s a b with | some m => ((m : Int), false) | none => (0, true)) := by
  rw [calc_core s a b hs ha hb, minFee, two64]
  split <;> rfl

/-- The fee rule passes iff the minimum fee is computable and covered. -/
theorem feeOk_iff (t : Tx) (a b : Nat) :
    feeVerdict t a b = .pass ↔
      a * txSizeForFee t + b < 2^64 ∧ t.fee ≥ a * txSizeForFee t + b := by
  unfold feeVerdict minFee two64
  by_cases h : a * txSizeForFee t + b < 18446744073709551616
  · simp [h]
  · simp [h]

/-- Overflow surfaces as the error verdict (not as a pass, not as "fee too small"). -/
theorem overflow_is_error (t : Tx) (a b : Nat) (h : a * txSizeForFee t + b ≥ 2^64) :
    feeVerdict t a b = .err := by
  unfold feeVerdict minFee two64
  rw [if_neg (by omega)]

theorem decodeArrayHeader_eq_some {b : List UInt8} {k : Nat} (hk : decodeArrayHeader b = some k) :
    ∃ ai hl, GV.Cbor.readHead b = .mk 4 ai k hl ∧ ai < 28 := by
  cases b with
  | nil => cases hk
  | cons x tl =>
    have hbe : ∀ l, be l = GV.Cbor.beNat l := fun _ => rfl
    refine ⟨x.toNat % 32, 1 + GV.Cbor.argLen (x.toNat % 32), ?_⟩
    -- both functions are ladders over the additional-information value
    simp only [decodeArrayHeader, maxInt32, hbe] at hk
    simp only [GV.Cbor.readHead, GV.Cbor.argLen]
    generalize x.toNat % 32 = ai at hk ⊢
    grind

/-- A definite envelope header states the real component count: whenever the header-only
    decode (`DecodeArrayHeader`) succeeds, its result is the number of children the
    byte-layer CBOR parser finds — for every byte string, every header width. -/
theorem hdr_count (b : List UInt8) (n k : Nat) (hn : envCount b = some n)
    (hk : decodeArrayHeader b = some k) : k = n := by
  unfold envCount at hn
  cases hcs : GV.Cbor.childSpans b with
  | none => simp [hcs] at hn
  | some r =>
    obtain ⟨h, cs, ind⟩ := r
    simp only [hcs] at hn
    split at hn <;> cases hn
    obtain ⟨ai, hl, hrh, h28⟩ := decodeArrayHeader_eq_some hk
    obtain ⟨_, _, hind, hdef⟩ := GV.Cbor.childSpans_head hcs hrh
    cases ind with
    | true => have := hind.mp rfl; omega
    | false => simpa using (hdef rfl).2.symm

/-- The size is the original length minus one exactly for a four-component envelope
    of an Alonzo-or-later transaction type, whatever the header form (any definite
    width, indefinite), where the component count is the one the byte-layer parser reads
    from the stored bytes. -/
theorem size_is_original (t : Tx) (hn : envCount t.bytes = some t.n) :
    txSizeForFee t =
      t.bytes.length - (if t.eraType ≥ 4 ∧ t.n = 4 then 1 else 0) := by
  unfold txSizeForFee
  simp only [GV.Gen.G1Consts.txTypeAlonzo]
  by_cases he : t.eraType ≥ 4
  · simp only [he, if_true, true_and, apply_ite (t.bytes.length - ·), Nat.sub_zero]
    -- a header count, where there is one, is `t.n`: both arms of the `match` test the same number
    cases hd : decodeArrayHeader t.bytes with
    | none => rfl
    | some k => rw [hdr_count t.bytes t.n k hn hd]
  · simp [he]

/-- For the eras the property names (Alonzo..Conway decode only four-component
    envelopes) the code's size is the property's size. -/
theorem size_eq_spec (t : Tx) (hn : envCount t.bytes = some t.n)
    (hera : t.eraType ≤ 6) :
    txSizeForFee t = specSize t := by
  rw [size_is_original t hn, specSize]
  -- with `hera` the upper era bound in `specSize`'s test is true, so both sides test the same condition
  simp only [GV.Gen.G1Consts.txTypeAlonzoEra, GV.Gen.G1Consts.txTypeConwayEra, hera, true_and, ge_iff_le]
  split <;> rfl

/-- Full statement, fee clause: an accepted fee covers a·size+b for the property's size. -/
theorem accepted_sound (t : Tx) (a b : Nat)
    (hn : envCount t.bytes = some t.n) (hera : t.eraType ≤ 6)
    (h : feeVerdict t a b = .pass) : t.fee ≥ a * specSize t + b := by
  rw [← size_eq_spec t hn hera]
  exact ((feeOk_iff t a b).1 h).2

/-- The maximum-size rule compares the same stored length. -/
theorem maxSize_same_length (t : Tx) (mx : Nat) : maxOk t mx = true ↔ t.bytes.length ≤ mx := by
  simp [maxOk]

/-- A non-minimal definite header is still read as its count: the one-byte length form
    `98 04` and the eight-byte form give 4 (so the byte is subtracted), `9f` gives none. -/
theorem header_forms :
    decodeArrayHeader [0x84] = some 4 ∧ decodeArrayHeader [0x98, 4] = some 4 ∧
    decodeArrayHeader [0x99, 0, 4] = some 4 ∧ decodeArrayHeader [0x9a, 0, 0, 0, 4] = some 4 ∧
    decodeArrayHeader [0x9b, 0, 0, 0, 0, 0, 0, 0, 4] = some 4 ∧
    decodeArrayHeader [0x9f] = none ∧ decodeArrayHeader [0x98] = none ∧
    decodeArrayHeader [0xa4] = none := by decide

/-- (R) constants and rule lists as they stand in the repository now. -/
theorem consts_and_rules :
    GV.Gen.G1Consts.txTypeAlonzo = GV.Gen.G1Consts.txTypeAlonzoEra ∧
    [GV.Gen.G1Consts.txTypeShelleyEra, GV.Gen.G1Consts.txTypeAllegraEra, GV.Gen.G1Consts.txTypeMaryEra,
     GV.Gen.G1Consts.txTypeAlonzoEra, GV.Gen.G1Consts.txTypeBabbageEra, GV.Gen.G1Consts.txTypeConwayEra,
     GV.Gen.G1Consts.txTypeDijkstraEra] = [1, 2, 3, 4, 5, 6, 7] ∧
    (∀ l ∈ [GV.Gen.RuleLists.shelley, GV.Gen.RuleLists.allegra, GV.Gen.RuleLists.mary,
            GV.Gen.RuleLists.alonzo, GV.Gen.RuleLists.babbage, GV.Gen.RuleLists.conway,
            GV.Gen.RuleLists.dijkstra],
      "UtxoValidateFeeTooSmallUtxo" ∈ l ∧ "UtxoValidateMaxTxSizeUtxo" ∈ l) ∧
    GV.Gen.G1Rules.feeTooSmallDelegation = [("allegra", "shelley.UtxoValidateFeeTooSmallUtxo")] ∧
    GV.Gen.G1Rules.maxTxSizeDelegation = [("allegra", "shelley.UtxoValidateMaxTxSizeUtxo")] := by
  refine ⟨rfl, rfl, ?_, rfl, rfl⟩
  -- membership by finding the name; no two names are ever compared for inequality
  simp only [GV.Gen.RuleLists.shelley, GV.Gen.RuleLists.allegra, GV.Gen.RuleLists.mary,
    GV.Gen.RuleLists.alonzo, GV.Gen.RuleLists.babbage, GV.Gen.RuleLists.conway, GV.Gen.RuleLists.dijkstra,
    List.mem_cons, List.not_mem_nil, or_false, forall_eq_or_imp, forall_eq, true_or, or_true, and_self]

/-- (R) What the maximum-size rule of each era measures, read off the source on this run:
    the stored original bytes (`tx.Cbor()`, re-encoding only when there are none) or
    `cbor.Encode(tx)`. Wherever it is `cbor.Encode(tx)`, the era's transaction type has a
    `MarshalCBOR` that returns the stored bytes first, so a decoded transaction is measured
    by its original encoding in every era. -/
theorem maxSize_measures_original :
    GV.Gen.G1Rules.maxSizeSource.map (·.1) = ["shelley", "mary", "alonzo", "babbage", "conway", "dijkstra"] ∧
    (∀ e ∈ GV.Gen.G1Rules.maxSizeSource, e.2 = "stored" ∨
      (e.2 = "encode" ∧ (e.1, true) ∈ GV.Gen.G1Rules.marshalReturnsStoredFirst)) ∧
    (∀ e ∈ GV.Gen.G1Rules.marshalReturnsStoredFirst, e.2 = true) := by
  refine ⟨rfl, ?_, ?_⟩ <;>
  simp only [GV.Gen.G1Rules.maxSizeSource, GV.Gen.G1Rules.marshalReturnsStoredFirst, List.mem_cons,
    List.not_mem_nil, or_false, forall_eq_or_imp, forall_eq, true_or, or_true, and_self]

/-- Re-assembly keeps the components' original bytes under a canonical one-byte header:
    a non-minimal or indefinite envelope header shrinks to one byte, a non-canonical body
    (here a map header in the one-byte-length form) is kept as it is. -/
theorem reassemble_examples :
    reassemble [0x83, 0xa0, 0xa0, 0xf6] = some [0x83, 0xa0, 0xa0, 0xf6] ∧
    reassemble [0x98, 0x03, 0xb8, 0x00, 0xa0, 0xf6] = some [0x83, 0xb8, 0x00, 0xa0, 0xf6] ∧
    reassemble [0x9f, 0xa0, 0xa0, 0xf5, 0xf6, 0xff] = some [0x84, 0xa0, 0xa0, 0xf5, 0xf6] ∧
    reassemble [0x84, 0xa0] = none := by decide

/-- Non-vacuity. -/
example : feeVerdict { eraType := 4, bytes := [0x84, 0xa0, 0xa0, 0xf5, 0xf6], n := 4, fee := 200 } 44 24 = .pass := by decide
example : envCount [0x84, 0xa0, 0xa0, 0xf5, 0xf6] = some 4 ∧ envCount [0x9f, 0xa0, 0xa0, 0xf5, 0xf6, 0xff] = some 4 ∧
    envCount [0x98, 0x03, 0xa0, 0xa0, 0xf6] = some 3 ∧ envCount [0x84, 0xa0] = none := by decide
example : feeVerdict { eraType := 4, bytes := [0x84, 0xa0, 0xa0, 0xf5, 0xf6], n := 4, fee := 199 } 44 24 = .fail := by decide
example : feeVerdict { eraType := 4, bytes := [0x9f, 0xa0, 0xa0, 0xf5, 0xf6, 0xff], n := 4, fee := 0 }
    18446744073709551615 2 = .err := by decide
example : calculateMinFee 5 44 24 = (244, false) := by decide

end GV.Props.C30
