import GV.Proofs.Offsets
/-!
  The key/value map walks of C07 (`extractOutputOffsets`, `extractMetadataOffsets`): the Go
  loop over a map that parses visits exactly the child spans, pair by pair.
-/
namespace GV.Model.Offsets
open GV.Cbor

/-- value span of the first pair whose key is the unsigned integer `k`. `none` if there is
    no such pair, or if an earlier key is not an unsigned integer (the Go loop gives up there). -/
def firstKey (data : Bytes) (k : Nat) : List (Nat × Nat) → Option (Nat × Nat)
  | ks :: vs :: rest =>
    match readUint (data.drop ks.1) with
    | none => none
    | some (key, _) => if key = k then some vs else firstKey data k rest
  | _ => none

/-- what `extractOutputOffsets` reports once it has found key 1 with its value at `q` -/
def outputsAt (data : Bytes) (base q : Nat) : List (Nat × Nat) :=
  match rawItems (data.drop q) with
  | none => []
  | some outs =>
    let h := if q < data.length then arrayHeaderLen (data.drop q) outs.length
             else minHeaderSize outs.length
    walk (base + q + h) outs

theorem outputsLoop_walk {data : Bytes} {base count : Nat} {indef : Bool} {n fuel p i : Nat}
    {kv : List (Nat × Nat)} (hlen : kv.length = 2 * n) (hw : Walk data count indef p i n kv)
    (hf : n < fuel) :
    outputsLoop data base count indef fuel p i =
      match firstKey data 1 kv with
      | none => []
      | some v => outputsAt data base v.1 := by
  refine Walk.pairs ?_ ?_ hlen hw hf
  · -- no pair left
    intro fuel p i hw
    simp only [outputsLoop, hw.stop, firstKey]
  · -- a pair: key span `ks`, value span `vs`
    rintro fuel i n ks vs rest hw hk hvs hv ih
    simp only [outputsLoop, hw.go, firstKey]
    cases hru : readUint (data.drop ks.1) with
    | none => rfl
    | some kk =>
      obtain ⟨key, kl⟩ := kk
      obtain rfl := readUint_len hru hk
      by_cases hkey : key = 1
      · simp only [hkey, if_true, hvs]; rfl
      · simp only [hkey, if_false, skipItem_of_wf hv]
        exact ih

theorem outputOffsets_eq {data : Bytes} {h : Nat} {kv : List (Nat × Nat)} {ind : Bool} {ai arg : Nat}
    (base : Nat) (hc : childSpans data = some (h, kv, ind)) (hrh : readHead data = .mk 5 ai arg h)
    (hlen : data.length ≤ 2147483647) :
    outputOffsets data base =
      match firstKey data 1 kv with
      | none => []
      | some v => outputsAt data base v.1 := by
  obtain ⟨n, c, hn, hf, hinfo, hw⟩ := container_walk hc hrh hlen
  simp only [outputOffsets, mapInfo, hinfo]
  split
  · -- fewer than 2 bytes: the header and a child cannot fit, so there is no pair
    match kv, hw with
    | [], _ => rfl
    | s :: _, hw =>
      have := wf_drop_le hw.skip.2.1
      have := (readHead_bounds hrh).1
      omega
  · rw [if_neg (by omega), Int.toNat_natCast]
    exact outputsLoop_walk (by simpa using hn) hw hf

theorem outputsAt_exact {data : Bytes} {q l ai arg hl : Nat} {cs : List (Nat × Nat)} {ind : Bool}
    (base : Nat) (hw : wfItem (data.drop q) = .ok l)
    (hrh : readHead (slice data q l) = .mk 4 ai arg hl)
    (hc : childSpans (slice data q l) = some (hl, cs, ind)) (hlen : data.length ≤ 2147483647) :
    outputsAt data base q = cs.map (fun p => (base + q + p.1, p.2)) ∧
    InBounds l cs := by
  have hl0 := wf_drop_le hw
  have hsl : (slice data q l).length = l := slice_length hl0.2
  have hsplit : slice data q l ++ (data.drop q).drop l = data.drop q := List.take_append_drop ..
  -- the array is found at the start of the suffix as well: parsing is local
  have hA : ArrAt (data.drop q) hl cs :=
    ⟨⟨ai, arg, hsplit ▸ readHead_append hrh⟩, ⟨ind, hsplit ▸ childSpans_append _ hc⟩⟩
  refine ⟨?_, hsl ▸ (childSpans_children hc).inBounds⟩
  simp only [outputsAt, hA.raw]
  rw [if_pos (by omega), hA.hdr (by simp only [List.length_drop]; omega)]
  exact walk_children (data.drop q) (base + q) cs hl hA.children.contig hA.children.inBounds

/-- the entries `extractMetadataOffsets` records over the child spans `kv` of the metadata map:
    one per pair whose key is a uint32 transaction index, in wire order; it gives up at a key
    that is not an unsigned integer. -/
def metaEntries (data : Bytes) (base : Nat) : List (Nat × Nat) → List (Nat × Nat × Nat)
  | ks :: vs :: rest =>
    match readUint (data.drop ks.1) with
    | none => []
    | some (key, _) =>
      if key > 4294967295 then metaEntries data base rest
      else (key, base + vs.1, vs.2) :: metaEntries data base rest
  | _ => []

theorem metadataLoop_walk {data : Bytes} {base count : Nat} {indef : Bool} {n fuel p i : Nat}
    {kv : List (Nat × Nat)} (hlen : kv.length = 2 * n) (hw : Walk data count indef p i n kv)
    (hf : n < fuel) :
    metadataLoop data base count indef fuel p i = metaEntries data base kv := by
  refine Walk.pairs ?_ ?_ hlen hw hf
  · -- no pair left
    intro fuel p i hw
    simp only [metadataLoop, hw.stop, metaEntries]
  · -- a pair: key span `ks`, value span `vs`
    rintro fuel i n ks vs rest hw hk hvs hv ih
    simp only [metadataLoop, hw.go, metaEntries]
    cases hru : readUint (data.drop ks.1) with
    | none => rfl
    | some kk =>
      obtain ⟨key, kl⟩ := kk
      obtain rfl := readUint_len hru hk
      simp only [skipItem_of_wf hv, hvs, ih]
      simp only [Nat.add_assoc]

theorem metadataOffsets_eq {data : Bytes} {h : Nat} {kv : List (Nat × Nat)} {ind : Bool} {ai arg : Nat}
    (base : Nat) (hc : childSpans data = some (h, kv, ind)) (hrh : readHead data = .mk 5 ai arg h)
    (hlen : data.length ≤ 2147483647) :
    metadataOffsets data base = metaEntries data base kv := by
  obtain ⟨n, c, hn, hf, hinfo, hw⟩ := container_walk hc hrh hlen
  have := readHead_bounds hrh
  simp only [metadataOffsets, mapInfo, hinfo]
  rw [if_neg (by omega), if_neg (by omega), Int.toNat_natCast]
  exact metadataLoop_walk (by simpa using hn) hw hf

/-- value span (shifted by `base`) of the LAST pair whose key is the unsigned integer `k` -/
def lastKey (data : Bytes) (base k : Nat) : List (Nat × Nat) → Option (Nat × Nat)
  | ks :: vs :: rest =>
    match lastKey data base k rest with
    | some r => some r
    | none =>
      match readUint (data.drop ks.1) with
      | some (key, _) => if key = k then some (base + vs.1, vs.2) else none
      | none => none
  | _ => none

/-- The transaction's metadata range (Go map semantics: a later entry replaces an earlier
    one) is the value under the last key equal to the transaction index — provided all
    keys of the metadata map are unsigned integers. -/
theorem lookupLast_metaEntries (data : Bytes) (base k : Nat) (hk : k ≤ 4294967295) :
    ∀ (n : Nat) (kv : List (Nat × Nat)), kv.length = 2 * n →
      (∀ j, 2 * j < kv.length → ∃ key kl, readUint (data.drop (kv.getD (2 * j) (0, 0)).1) = some (key, kl)) →
      lookupLast k (metaEntries data base kv) = lastKey data base k kv := by
  rintro - kv - hkeys
  fun_induction metaEntries data base kv with
  | case1 ks vs rest hru =>
    -- first key unreadable: excluded by `hkeys`
    obtain ⟨key, kl, h0⟩ := hkeys 0 (by simp)
    simp [hru] at h0
  | case2 ks vs rest key kl hru hbig ih =>
    -- first key above 2^32: no entry, and it is not `k`
    have : ¬ key = k := by omega
    rw [ih fun j hj => hkeys (j + 1) (by simp only [List.length_cons]; omega), lastKey, hru]
    cases lastKey data base k rest <;> simp [this]
  | case3 ks vs rest key kl hru hbig ih =>
    -- first key a transaction index: an entry, found unless a later pair has the same key
    rw [lookupLast, ih fun j hj => hkeys (j + 1) (by simp only [List.length_cons]; omega), lastKey,
      hru]
    cases lastKey data base k rest <;> simp
  | case4 kv hne =>
    -- fewer than two spans
    unfold lastKey
    split
    · exact (hne _ _ _ rfl).elim
    · rfl

end GV.Model.Offsets
