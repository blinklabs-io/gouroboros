/-
  GV.Lib.AssocMap — Go maps as association lists (core Lean only).

  A Go `map[K]V` is modelled by a `List (K × V)`; the list order stands for
  *one* iteration order of the map.  The "keys are distinct" invariant is the
  separate predicate `NodupKeys` (not a subtype): each list operation below
  that stands for a map operation (`insert`, `erase`, `filter`, map on values)
  comes with a `nodupKeys_*` theorem, and theorems about the modelled code are
  stated for every list satisfying the invariant, i.e. for every iteration order.

  `lookup` / `insert` are first-match, so `lookup k (insert k v m) = some v`
  holds without the invariant; the invariant is needed where a Go map
  operation is modelled by a list operation that touches one entry only
  (`filter`, `erase`, membership ↔ lookup).
-/
namespace GV.Lib.AssocMap
set_option linter.unusedSectionVars false

variable {κ : Type} {ν : Type} [DecidableEq κ]

/-- `m[k]` with presence flag. -/
def lookup (k : κ) : List (κ × ν) → Option ν
  | [] => none
  | e :: t => if e.1 = k then some e.2 else lookup k t

/-- `m[k] = v` (replace in place, else append). -/
def insert (k : κ) (v : ν) : List (κ × ν) → List (κ × ν)
  | [] => [(k, v)]
  | e :: t => if e.1 = k then (k, v) :: t else e :: insert k v t

/-- `delete(m, k)`. -/
def erase (k : κ) : List (κ × ν) → List (κ × ν)
  | [] => []
  | e :: t => if e.1 = k then t else e :: erase k t

def keys (m : List (κ × ν)) : List κ := m.map Prod.fst

/-- The Go-map invariant: no key occurs twice. -/
def NodupKeys (m : List (κ × ν)) : Prop := (keys m).Nodup

instance (m : List (κ × ν)) : Decidable (NodupKeys m) := by unfold NodupKeys; infer_instance

@[simp] theorem keys_nil : keys ([] : List (κ × ν)) = [] := rfl
@[simp] theorem keys_cons (e : κ × ν) (t : List (κ × ν)) : keys (e :: t) = e.1 :: keys t := rfl
@[simp] theorem lookup_nil (k : κ) : lookup k ([] : List (κ × ν)) = none := rfl
theorem keys_append (a b : List (κ × ν)) : keys (a ++ b) = keys a ++ keys b := List.map_append
theorem lookup_cons (k : κ) (e : κ × ν) (t : List (κ × ν)) :
    lookup k (e :: t) = if e.1 = k then some e.2 else lookup k t := rfl

theorem nodupKeys_nil : NodupKeys ([] : List (κ × ν)) := List.nodup_nil

theorem nodupKeys_cons {e : κ × ν} {t : List (κ × ν)} :
    NodupKeys (e :: t) ↔ e.1 ∉ keys t ∧ NodupKeys t := by
  unfold NodupKeys; simp [List.nodup_cons]

/- `fun_induction` on `lookup`, `insert` or `erase` alike: `case1` the empty map, `case2 e t h` a head
   with the key (`h : e.1 = k`), `case3 e t h ih` a head with another key. -/

theorem lookup_eq_none_iff {k : κ} {m : List (κ × ν)} : lookup k m = none ↔ k ∉ keys m := by
  fun_induction lookup k m with
  | case1 => simp
  | case2 e t h => simp [h]
  | case3 e t h ih => simp [Ne.symm h, ih]

theorem mem_of_lookup {k : κ} {v : ν} {m : List (κ × ν)} (h : lookup k m = some v) :
    (k, v) ∈ m := by
  fun_induction lookup k m with
  | case1 => cases h
  | case2 e t hk =>
    cases h
    exact hk ▸ List.mem_cons_self
  | case3 e t hk ih => exact List.mem_cons_of_mem _ (ih h)

theorem mem_keys_of_mem {k : κ} {v : ν} {m : List (κ × ν)} (h : (k, v) ∈ m) : k ∈ keys m := by
  unfold keys; exact List.mem_map.mpr ⟨(k, v), h, rfl⟩

theorem mem_keys_of_lookup {k : κ} {v : ν} {m : List (κ × ν)} (h : lookup k m = some v) :
    k ∈ keys m := mem_keys_of_mem (mem_of_lookup h)

theorem exists_mem_of_mem_keys {k : κ} {m : List (κ × ν)} (h : k ∈ keys m) : ∃ v, (k, v) ∈ m := by
  obtain ⟨⟨_, v⟩, he, rfl⟩ := List.mem_map.mp h
  exact ⟨v, he⟩

theorem lookup_of_mem {k : κ} {v : ν} {m : List (κ × ν)} (hn : NodupKeys m) (h : (k, v) ∈ m) :
    lookup k m = some v := by
  induction m with
  | nil => simp at h
  | cons e t ih =>
    rw [nodupKeys_cons] at hn
    rw [lookup_cons]
    rcases List.mem_cons.mp h with h1 | h1
    · subst h1; simp
    · have : e.1 ≠ k := fun he => hn.1 (he ▸ mem_keys_of_mem h1)
      rw [if_neg this]; exact ih hn.2 h1

theorem mem_iff_lookup {k : κ} {v : ν} {m : List (κ × ν)} (hn : NodupKeys m) :
    (k, v) ∈ m ↔ lookup k m = some v := ⟨lookup_of_mem hn, mem_of_lookup⟩

theorem eq_of_fst_eq {x y : κ × ν} {m : List (κ × ν)} (hn : NodupKeys m) (hx : x ∈ m) (hy : y ∈ m)
    (hk : x.1 = y.1) : x = y := by
  have hx' : lookup y.1 m = some x.2 := hk ▸ lookup_of_mem hn hx
  exact Prod.ext hk (Option.some.inj (hx'.symm.trans (lookup_of_mem hn hy)))

theorem nodup_of_nodupKeys {m : List (κ × ν)} (h : NodupKeys m) : m.Nodup :=
  List.Pairwise.of_map Prod.fst (fun _ _ h e => h (congrArg Prod.fst e)) h

theorem perm_of_lookup_eq {a b : List (κ × ν)} (ha : NodupKeys a) (hb : NodupKeys b)
    (h : ∀ k, lookup k a = lookup k b) : a.Perm b := by
  rw [List.perm_ext_iff_of_nodup (nodup_of_nodupKeys ha) (nodup_of_nodupKeys hb)]
  rintro ⟨k, v⟩
  rw [mem_iff_lookup ha, mem_iff_lookup hb, h]

theorem lookup_of_perm {x y : List (κ × ν)} (hx : NodupKeys x) (hp : x.Perm y) (k : κ) :
    lookup k x = lookup k y := by
  have hy : NodupKeys y := (hp.map _).nodup_iff.mp hx
  apply Option.ext
  intro v
  rw [← mem_iff_lookup hx, ← mem_iff_lookup hy, hp.mem_iff]

theorem lookup_isSome_iff {k : κ} {m : List (κ × ν)} : (lookup k m).isSome ↔ k ∈ keys m := by
  cases h : lookup k m with
  | none => simp [lookup_eq_none_iff.mp h]
  | some v => simp [mem_keys_of_lookup h]

theorem lookup_insert (k k' : κ) (v : ν) (m : List (κ × ν)) :
    lookup k' (insert k v m) = if k' = k then some v else lookup k' m := by
  fun_induction insert k v m with
  | case1 => simp [lookup_cons, eq_comm]
  | case2 e t h =>
    simp only [lookup_cons, h, eq_comm (a := k)]
    split <;> rfl
  | case3 e t h ih =>
    rw [lookup_cons, lookup_cons, ih]
    by_cases hk : k' = k
    · simp [hk, h]
    · simp [hk]

theorem lookup_insert_self (k : κ) (v : ν) (m : List (κ × ν)) : lookup k (insert k v m) = some v := by
  rw [lookup_insert, if_pos rfl]

theorem lookup_insert_ne {k k' : κ} (v : ν) (m : List (κ × ν)) (hne : k' ≠ k) :
    lookup k' (insert k v m) = lookup k' m := by
  rw [lookup_insert, if_neg hne]

theorem insert_of_not_mem (k : κ) (v : ν) (m : List (κ × ν)) (hk : k ∉ keys m) :
    insert k v m = m ++ [(k, v)] := by
  fun_induction insert k v m with
  | case1 => rfl
  | case2 e t h => exact absurd (h ▸ List.mem_cons_self) hk
  | case3 e t h ih => rw [ih (List.not_mem_of_not_mem_cons hk), List.cons_append]

theorem mem_keys_insert {k k' : κ} {v : ν} {m : List (κ × ν)} :
    k' ∈ keys (insert k v m) ↔ k' = k ∨ k' ∈ keys m := by
  rw [← lookup_isSome_iff, ← lookup_isSome_iff, lookup_insert]
  by_cases h : k' = k <;> simp [h]

theorem mem_insert_cases {k : κ} {v : ν} {m : List (κ × ν)} {x : κ × ν}
    (h : x ∈ insert k v m) : x = (k, v) ∨ x ∈ m := by
  fun_induction insert k v m with
  | case1 => exact Or.inl (List.mem_singleton.mp h)
  | case2 e t _ => exact (List.mem_cons.mp h).imp_right (List.mem_cons_of_mem _)
  | case3 e t _ ih =>
    rcases List.mem_cons.mp h with h | h
    · exact Or.inr (h ▸ List.mem_cons_self)
    · exact (ih h).imp_right (List.mem_cons_of_mem _)

theorem nodupKeys_insert {k : κ} {v : ν} {m : List (κ × ν)} (hn : NodupKeys m) :
    NodupKeys (insert k v m) := by
  fun_induction insert k v m with
  | case1 => simp [NodupKeys, keys]
  | case2 e t h =>
    rw [nodupKeys_cons] at hn ⊢
    exact h ▸ hn
  | case3 e t h ih =>
    rw [nodupKeys_cons] at hn
    rw [nodupKeys_cons, mem_keys_insert]
    exact ⟨fun h2 => h2.elim h hn.1, ih hn.2⟩

theorem keys_erase_sublist (k : κ) (m : List (κ × ν)) : (keys (erase k m)).Sublist (keys m) := by
  fun_induction erase k m with
  | case1 => exact List.Sublist.refl _
  | case2 e t h => exact List.sublist_cons_self _ _
  | case3 e t h ih => exact ih.cons_cons _

theorem nodupKeys_erase {k : κ} {m : List (κ × ν)} (hn : NodupKeys m) : NodupKeys (erase k m) :=
  List.Nodup.sublist (keys_erase_sublist k m) hn

theorem lookup_erase_self {k : κ} {m : List (κ × ν)} (hn : NodupKeys m) : lookup k (erase k m) = none := by
  fun_induction erase k m with
  | case1 => rfl
  | case2 e t h => exact lookup_eq_none_iff.mpr (h ▸ (nodupKeys_cons.mp hn).1)
  | case3 e t h ih => rw [lookup_cons, if_neg h, ih (nodupKeys_cons.mp hn).2]

theorem lookup_erase_ne {k k' : κ} (m : List (κ × ν)) (hne : k' ≠ k) :
    lookup k' (erase k m) = lookup k' m := by
  fun_induction erase k m with
  | case1 => rfl
  | case2 e t h => rw [lookup_cons, if_neg (h ▸ Ne.symm hne)]
  | case3 e t h ih => rw [lookup_cons, lookup_cons, ih]

theorem keys_filter_sublist (p : κ × ν → Bool) (m : List (κ × ν)) :
    (keys (m.filter p)).Sublist (keys m) := by
  unfold keys; exact List.Sublist.map _ List.filter_sublist

theorem nodupKeys_filter {p : κ × ν → Bool} {m : List (κ × ν)} (hn : NodupKeys m) :
    NodupKeys (m.filter p) :=
  List.Nodup.sublist (keys_filter_sublist p m) hn

theorem lookup_filter {p : κ × ν → Bool} {m : List (κ × ν)} (hn : NodupKeys m) (k : κ) :
    lookup k (m.filter p) = (lookup k m).filter (fun v => p (k, v)) := by
  apply Option.ext
  intro v
  rw [← mem_iff_lookup (nodupKeys_filter hn), List.mem_filter, mem_iff_lookup hn,
    Option.filter_eq_some_iff]

theorem keys_mapVal {μ : Type} (f : ν → μ) (m : List (κ × ν)) :
    keys (m.map (fun e => (e.1, f e.2))) = keys m := by
  unfold keys; simp [List.map_map, Function.comp_def]

theorem nodupKeys_mapVal {μ : Type} (f : ν → μ) {m : List (κ × ν)} (h : NodupKeys m) :
    NodupKeys (m.map (fun e => (e.1, f e.2))) := by
  unfold NodupKeys; rw [keys_mapVal]; exact h

theorem lookup_mapVal {μ : Type} (f : ν → μ) (m : List (κ × ν)) (k : κ) :
    lookup k (m.map (fun e => (e.1, f e.2))) = (lookup k m).map f := by
  fun_induction lookup k m with
  | case1 => rfl
  | case2 e t h => simp [lookup_cons, h]
  | case3 e t h ih => simp [lookup_cons, h, ih]

/-- Pigeonhole: a further member `x` of `l₂` would make `x :: l₁` duplicate-free, inside `l₂`, and longer. -/
theorem subset_of_nodup_length {α : Type} {l₁ l₂ : List α} (hn : l₁.Nodup) (hs : l₁ ⊆ l₂)
    (hl : l₂.length ≤ l₁.length) : l₂ ⊆ l₁ := by
  intro x hx
  apply Classical.byContradiction
  intro hx'
  have := (List.nodup_cons.mpr ⟨hx', hn⟩).length_le_of_subset (List.cons_subset.mpr ⟨hx, hs⟩)
  simp only [List.length_cons] at this
  omega

/-- Two maps compared the way `MultiAsset.Compare` compares at either level: equal sizes, and a
    test `C` of every entry of `Y` only.  Read each map as a function (`vX`, `vY`) whose keys are
    the points where it is not `z`; if `C` tests agreement at the entry's key, the comparison says
    the functions are equal: the size test makes up for never looking at the keys of `X`. -/
theorem length_eq_and_all_iff {μ V : Type} {X : List (κ × μ)} {Y : List (κ × ν)}
    (hX : NodupKeys X) (hY : NodupKeys Y) {C : κ × ν → Prop} {vX vY : κ → V} {z : V}
    (hkX : ∀ k, k ∈ keys X ↔ vX k ≠ z) (hkY : ∀ k, k ∈ keys Y ↔ vY k ≠ z)
    (hC : ∀ e ∈ Y, C e ↔ vX e.1 = vY e.1) :
    (Y.length = X.length ∧ ∀ e ∈ Y, C e) ↔ ∀ k, vX k = vY k := by
  constructor
  · rintro ⟨hlen, hall⟩
    have hY' : ∀ k ∈ keys Y, vX k = vY k := fun k hk => by
      obtain ⟨v, hv⟩ := exists_mem_of_mem_keys hk
      exact (hC _ hv).mp (hall _ hv)
    have hsup : keys X ⊆ keys Y :=
      subset_of_nodup_length hY (fun k hk => (hkX k).mpr (hY' k hk ▸ (hkY k).mp hk))
        (by simp [keys, hlen])
    intro k
    by_cases hk : k ∈ keys Y
    · exact hY' k hk
    · -- `k` is no key of `Y`, hence (`hsup`) none of `X`: both functions are `z` at `k`
      have hXk : vX k = z := Classical.not_not.mp (mt (hkX k).mpr fun h => hk (hsup h))
      have hYk : vY k = z := Classical.not_not.mp (mt (hkY k).mpr hk)
      rw [hXk, hYk]
  · intro hall
    refine ⟨?_, fun e he => (hC e he).mpr (hall e.1)⟩
    have := ((List.perm_ext_iff_of_nodup hY hX).mpr fun k => by
      rw [hkX, hkY, hall]).length_eq
    simpa [keys] using this

end GV.Lib.AssocMap
