import GV.Lib.CborArray
import GV.Proofs.CborBytes
/-!
  The array-backed machine equals the list machine on the suffix starting at the position:
  `wfItemA a pos = wfItem (a.toList.drop pos)`, `childSpansA a pos = childSpans (a.toList.drop pos)`.
-/
namespace GV.Cbor

theorem drop_of_getElem? {a : Array UInt8} {p : Nat} {x : UInt8} (h : a[p]? = some x) :
    a.toList.drop p = x :: a.toList.drop (p + 1) := by
  rw [← Array.getElem?_toList] at h
  obtain ⟨hp, rfl⟩ := List.getElem?_eq_some_iff.mp h
  exact List.drop_eq_getElem_cons hp

theorem drop_of_none {a : Array UInt8} {p : Nat} (h : a[p]? = none) : a.toList.drop p = [] := by
  rw [← Array.getElem?_toList] at h
  exact List.drop_eq_nil_of_le (List.getElem?_eq_none_iff.mp h)

theorem beNatA_eq (a : Array UInt8) (k p acc : Nat) :
    beNatA a k p acc = ((a.toList.drop p).take k).foldl (fun acc x => acc * 256 + x.toNat) acc := by
  fun_induction beNatA a k p acc
  case case1 => simp
  -- one more byte
  case case2 k p acc x h ih => simp [drop_of_getElem? h, ih]
  -- past the end
  case case3 k p acc h => simp [drop_of_none h]

theorem readHeadA_eq (a : Array UInt8) (pos : Nat) : readHeadA a pos = readHead (a.toList.drop pos) := by
  unfold readHeadA
  cases h : a[pos]? with
  | none => simp [drop_of_none h, readHead]
  | some x =>
    rw [drop_of_getElem? h]
    simp only [readHead, List.length_drop, Array.length_toList, beNatA_eq, beNat]

theorem stepA_eq (a : Array UInt8) (pos : Nat) (st : Stack) :
    stepA a pos st = step (a.toList.drop pos) st := by
  unfold stepA step
  rw [readHeadA_eq]
  simp only [List.length_drop, Array.length_toList]
  rfl

theorem runA_eq (a : Array UInt8) (f pos : Nat) (st : Stack) :
    runA a f pos st = runS f (a.toList.drop pos) pos st := by
  fun_induction runA a f pos st
  -- the machine goes on
  case case5 f pos st c st' hs ih =>
    rw [runS, ← stepA_eq, hs]
    simp only [List.drop_drop]
    exact ih
  -- no fuel, or the run ends with this step
  all_goals simp only [runS, ← stepA_eq, *]

theorem wfItemA_eq (a : Array UInt8) (pos : Nat) : wfItemA a pos = wfItem (a.toList.drop pos) := by
  unfold wfItemA
  rw [runA_eq, runS_shift, wfItem_eq, List.length_drop, Array.length_toList]
  cases runS (a.size - pos + 1) (a.toList.drop pos) 0 [] <;> simp [Res.shift]

theorem spansDefA_eq (a : Array UInt8) (origin : Nat) : ∀ (n q : Nat),
    spansDefA a origin n (origin + q) = spansDef n (a.toList.drop (origin + q)) q := by
  intro n
  induction n with
  | zero => intro q; rfl
  | succ n ih =>
    intro q
    simp only [spansDefA, spansDef, wfItemA_eq, Nat.add_sub_cancel_left]
    cases wfItem (a.toList.drop (origin + q)) with
    | ok l => simp only [Nat.add_assoc, ih, List.drop_drop]
    | _ => rfl

theorem spansIndefA_eq (a : Array UInt8) (origin : Nat) : ∀ (f q : Nat),
    spansIndefA a origin f (origin + q) = spansIndef f (a.toList.drop (origin + q)) q := by
  intro f
  induction f with
  | zero => intro q; rfl
  | succ f ih =>
    intro q
    simp only [spansIndefA]
    cases h : a[origin + q]? with
    | none => simp [drop_of_none h, spansIndef]
    | some x =>
      have hd := drop_of_getElem? h
      rw [hd]
      simp only [spansIndef]
      by_cases hx : x = 0xff
      · simp [hx]
      · simp only [hx, if_false, wfItemA_eq, Nat.add_sub_cancel_left]
        rw [← hd]
        cases wfItem (a.toList.drop (origin + q)) with
        | ok l => simp only [Nat.add_assoc, ih, List.drop_drop]
        | _ => rfl

theorem childSpansA_eq (a : Array UInt8) (pos : Nat) :
    childSpansA a pos = childSpans (a.toList.drop pos) := by
  unfold childSpansA childSpans
  rw [readHeadA_eq]
  cases readHead (a.toList.drop pos) with
  | short => rfl
  | mk major ai arg hlen =>
    simp only [List.length_drop, Array.length_toList, List.drop_drop, spansIndefA_eq, spansDefA_eq]
    rfl

end GV.Cbor
