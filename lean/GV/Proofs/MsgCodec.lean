import GV.Model.MsgCodec
/-!
  The message codec model `GV.Model.MsgCodec.decVal` against its two specifications: every value
  a constructor can build (`hasShape`) decodes back from its encoding in every mode (`dec_enc`,
  `bytes_roundtrip`); the strict mode accepts exactly the trees that `conforms`
  (`strict_iff_conforms`); every mode reads a conforming tree as the strict mode does
  (`decVal_of_conforms`), so what the strict mode accepts the lax mode accepts with the same value
  (`strict_lax`).
-/
namespace GV.Proofs.MsgCodec
open GV.CborT GV.Model.MsgCodec

mutual
/-- `v` is a value a constructor can build for a field of shape `s`
    (raw items and opaque types excluded: their encoding is not determined by the value) -/
def hasShape : Shape → Val → Bool
  | .uint bits, .u n => decide (n < 2 ^ bits)
  | .bool, .b _ => true
  | .text, .t _ => true
  | .bytes, .h _ => true
  | .fixed n, .h b => decide (b.length = n)
  | .point, .s xs => fieldsShape [.uint 64, .bytes] xs
  | .list e, .l xs => allShape e xs
  | .struct fs, .s xs => fieldsShape fs xs
  | .map k v, .m kvs => mapShape k v kvs
  | _, _ => false
def allShape : Shape → List Val → Bool
  | _, [] => true
  | e, x :: xs => hasShape e x && allShape e xs
def fieldsShape : List Shape → List Val → Bool
  | [], [] => true
  | f :: fs, x :: xs => hasShape f x && fieldsShape fs xs
  | _, _ => false
def mapShape : Shape → Shape → List Val → Bool
  | _, _, [] => true
  | k, v, a :: b :: rest => hasShape k a && hasShape v b && mapShape k v rest
  | _, _, [_] => false
end

theorem padTo_self (n : Nat) (b : Bytes) (h : b.length = n) : padTo n b = b := by
  unfold padTo
  rw [List.take_append_of_le_length (by omega), List.take_of_length_le (by omega)]

mutual
theorem dec_enc (m : Mode) : ∀ (s : Shape) (v : Val), hasShape s v = true → decVal m s (encVal v) = some v
  | s, .u n, h => by
    cases s <;> simp [hasShape] at h
    simp [encVal, decVal, decLeaf, isNull, h]
  | s, .b x, h => by
    cases s <;> simp [hasShape] at h
    cases x <;> simp [encVal, decVal, decLeaf, isNull]
  | s, .t x, h => by
    cases s <;> simp [hasShape] at h
    simp [encVal, decVal, decLeaf, isNull, strPayload]
  | s, .h x, h => by
    cases s <;> simp [hasShape] at h
    case bytes => simp [encVal, decVal, decLeaf, isNull, strPayload]
    case fixed n => simp [encVal, decVal, decLeaf, isNull, strPayload, h, padTo_self _ x h]
  | s, .r _, h => by cases s <;> simp [hasShape] at h
  | s, .l xs, h => by
    cases s <;> simp [hasShape] at h
    simp [encVal, decVal, decList_enc m _ xs h]
  | s, .m kvs, h => by
    cases s <;> simp [hasShape] at h
    simp [encVal, decVal, decMap_enc m _ _ kvs h]
  | s, .s xs, h => by
    cases s <;> simp [hasShape] at h
    case point =>
      -- only xs = [.u slot, .h hash] passes fieldsShape [.uint 64, .bytes]
      rcases xs with _ | ⟨x, _ | ⟨y, _ | _⟩⟩ <;> simp [fieldsShape] at h
      cases x <;> simp [hasShape] at h
      cases y <;> simp [hasShape] at h
      cases m.tags <;> simp [encVal, encVals, decVal, decPoint, pointPair, strip55799, items, strPayload]
    case struct fs => simp [encVal, decVal, decFields_enc m _ xs h]
theorem decList_enc (m : Mode) : ∀ (e : Shape) (xs : List Val), allShape e xs = true → decList m e (encVals xs) = some xs
  | _, [], _ => by simp [encVals, decList]
  | e, x :: xs, h => by
    simp only [allShape, Bool.and_eq_true] at h
    simp [encVals, decList, dec_enc m e x h.1, decList_enc m e xs h.2]
theorem decFields_enc (m : Mode) : ∀ (fs : List Shape) (xs : List Val), fieldsShape fs xs = true → decFields m fs (encVals xs) = some xs
  | [], [], _ => by simp [encVals, decFields]
  | f :: fs, x :: xs, h => by
    simp only [fieldsShape, Bool.and_eq_true] at h
    simp [encVals, decFields, dec_enc m f x h.1, decFields_enc m fs xs h.2]
  | [], _ :: _, h => by simp [fieldsShape] at h
  | _ :: _, [], h => by simp [fieldsShape] at h
theorem decMap_enc (m : Mode) : ∀ (k v : Shape) (kvs : List Val), mapShape k v kvs = true → decMap m k v (encVals kvs) = some kvs
  | _, _, [], _ => by simp [encVals, decMap]
  | k, v, a :: b :: rest, h => by
    simp only [mapShape, Bool.and_eq_true] at h
    simp [encVals, decMap, dec_enc m k a h.1.1, dec_enc m v b h.1.2, decMap_enc m k v rest h.2]
  | _, _, [_], h => by simp [mapShape] at h
end

def lim : Nat := 18446744073709551616
mutual
/-- every number and length in the value fits 64 bits (true of anything a Go constructor builds) -/
def small : Val → Bool
  | .u n => decide (n < lim)
  | .b _ => true
  | .t s => decide (s.length < lim)
  | .h s => decide (s.length < lim)
  | .r _ => true
  | .l xs => decide (xs.length < lim) && smallL xs
  | .s xs => decide (xs.length < lim) && smallL xs
  | .m kvs => decide (kvs.length % 2 = 0) && decide (kvs.length / 2 < lim) && smallL kvs
def smallL : List Val → Bool
  | [] => true
  | x :: xs => small x && smallL xs
end

theorem encVals_length (xs : List Val) : (encVals xs).length = xs.length := by
  induction xs with
  | nil => rfl
  | cons x xs ih => simp [encVals, ih]

mutual
theorem encVal_valid : ∀ v : Val, small v = true → (encVal v).valid = true
  | .u x, h | .t x, h | .h x, h => by
    simp only [small, decide_eq_true_eq] at h
    simp [encVal, Cbor.valid, wmin, W.minimal_fits h]
  | .b x, _ => by cases x <;> simp [encVal, Cbor.valid, primFits, W.fits]
  | .r _, _ => by simp [encVal, Cbor.valid, primFits, W.fits]
  | .l xs, h | .s xs, h => by
    simp only [small, Bool.and_eq_true, decide_eq_true_eq] at h
    simp [encVal, Cbor.valid, wmin, encVals_length, W.minimal_fits h.1, encVals_valid xs h.2]
  | .m kvs, h => by
    simp only [small, Bool.and_eq_true, decide_eq_true_eq] at h
    simp [encVal, Cbor.valid, wmin, encVals_length, W.minimal_fits h.1.2, encVals_valid kvs h.2, h.1.1]
theorem encVals_valid : ∀ xs : List Val, smallL xs = true → validL (encVals xs) = true
  | [], _ => by simp [encVals, validL]
  | x :: xs, h => by
    simp only [smallL, Bool.and_eq_true] at h
    simp [encVals, validL, encVal_valid x h.1, encVals_valid xs h.2]
end

theorem bytes_roundtrip (m : Mode) (s : Shape) (v : Val) (hs : hasShape s v = true) (hl : small v = true)
    (rest : Bytes) :
    (decode (enc (encVal v) ++ rest)).bind (fun p => decVal m s p.1) = some v := by
  rw [decode_enc _ (encVal_valid v hl) rest]
  simp [dec_enc m s v hs]

/-! ## strict = `conforms` -/

theorem isSome_ite {α : Type} (c : Prop) [Decidable c] (a : α) :
    (if c then some a else none).isSome = decide c := by
  split <;> simp [*]

theorem pointPair_some {a h : Cbor} {v : Val} (hp : pointPair a h = some v) :
    ∃ ws slot hash, a = .int false ws slot ∧ strPayload false h = some hash ∧ v = .s [.u slot, .h hash] := by
  unfold pointPair at hp
  split at hp
  · rename_i ws slot
    split at hp
    · rename_i hash hs
      exact ⟨ws, slot, hash, rfl, hs, (Option.some.inj hp).symm⟩
    · cases hp
  · cases hp

theorem decPoint_iff (t : Cbor) (xs : List Cbor) (h : items t = some xs) :
    (decPoint false t).isSome = pointConforms xs := by
  simp only [decPoint, h, Bool.false_eq_true, ↓reduceIte, pointPair]
  match xs with
  | [] => simp [pointConforms]
  | [x] => cases x <;> simp [pointConforms]
  | [x, y] =>
    cases x with
    | int neg w' n =>
      cases neg
      · cases y with
        | str txt wy b => cases txt <;> simp [pointConforms, strPayload]
        | strI txt cs => cases txt <;> simp [pointConforms, strPayload]
        | _ => simp [pointConforms, strPayload]
      · cases y <;> simp [pointConforms]
    | _ => simp [pointConforms]
  | _ :: _ :: _ :: _ => simp [pointConforms]

theorem raw_isSome (m : Mode) : ∀ t : Cbor, (decVal m .raw t).isSome = true
  | .tag w n x => by
    simp only [decVal]
    split
    · exact raw_isSome m x
    · rfl
  | .arr _ _ | .arrI _ | .map _ _ | .mapI _ => by simp [decVal]
  | .int _ _ _ | .str _ _ _ | .strI _ _ | .prim _ _ => by simp [decVal, decLeaf]

mutual
theorem strict_iff_conforms : ∀ (s : Shape) (t : Cbor), (decVal Mode.strict s t).isSome = conforms s t
  | s, .tag w n x => by
    -- both sides compute to the same constant except for `.bytes` and `.raw`
    cases s <;> try rfl
    case bytes =>
      have := strict_iff_conforms .bytes x
      simp only [Mode.strict] at this
      by_cases hn : n = 24 <;> simp [decVal, conforms, Mode.strict, hn, this]
    case raw => exact raw_isSome Mode.strict (.tag w n x)
  | s, .arr _ xs | s, .arrI xs => by
    cases s <;> try rfl
    case point => exact decPoint_iff _ xs rfl
    case list e => exact Option.isSome_map.trans (strict_iff_conformsL _ xs)
    case struct fs => exact Option.isSome_map.trans (strict_iff_conformsF _ xs)
  | s, .map _ xs | s, .mapI xs => by
    cases s <;> try rfl
    case map k e => exact Option.isSome_map.trans (strict_iff_conformsM _ _ xs)
  | s, .int neg w n => by
    cases s <;> cases neg <;> try rfl
    case uint.false bits => exact isSome_ite _ _
  | s, .str txt _ _ | s, .strI txt _ => by
    cases s <;> cases txt <;> try rfl
    case fixed.false k => exact isSome_ite _ _
  | s, .prim w n => by
    cases s <;> try rfl
    case bool =>
      simp only [decVal, conforms, decLeaf, leafConforms, Mode.strict, Bool.false_and, Bool.false_eq_true, ↓reduceIte]
      split <;> simp_all
theorem strict_iff_conformsL : ∀ (e : Shape) (xs : List Cbor), (decList Mode.strict e xs).isSome = conformsL e xs
  | _, [] => by simp [decList, conformsL]
  | e, x :: xs => by
    have h1 := strict_iff_conforms e x
    have h2 := strict_iff_conformsL e xs
    simp only [decList, conformsL, ← h1, ← h2]
    cases decVal Mode.strict e x <;> cases decList Mode.strict e xs <;> simp
theorem strict_iff_conformsF : ∀ (fs : List Shape) (xs : List Cbor), (decFields Mode.strict fs xs).isSome = conformsF fs xs
  | [], [] => by simp [decFields, conformsF]
  | f :: fs, x :: xs => by
    have h1 := strict_iff_conforms f x
    have h2 := strict_iff_conformsF fs xs
    simp only [decFields, conformsF, ← h1, ← h2]
    cases decVal Mode.strict f x <;> cases decFields Mode.strict fs xs <;> simp
  | [], _ :: _ => by simp [decFields, conformsF]
  | _ :: _, [] => by simp [decFields, conformsF]
theorem strict_iff_conformsM : ∀ (k e : Shape) (xs : List Cbor), (decMap Mode.strict k e xs).isSome = conformsM k e xs
  | _, _, [] => by simp [decMap, conformsM]
  | _, _, [_] => by simp [decMap, conformsM]
  | k, e, x :: y :: xs => by
    have h1 := strict_iff_conforms k x
    have h2 := strict_iff_conforms e y
    have h3 := strict_iff_conformsM k e xs
    simp only [decMap, conformsM, ← h1, ← h2, ← h3]
    cases decVal Mode.strict k x <;> cases decVal Mode.strict e y <;> cases decMap Mode.strict k e xs <;> simp
end

/-! ## strict ⊆ lax -/

theorem decLeaf_of_conforms (m : Mode) (s : Shape) (t : Cbor) :
    leafConforms s t = true → decLeaf m s t = decLeaf Mode.strict s t := by
  fun_cases leafConforms s t
  -- the two `.fixed n` rows: the payload has `n` bytes, so padding leaves it alone
  case case9 | case10 =>
    intro h
    have hl := of_decide_eq_true h
    simp [decLeaf, isNull, strPayload, Mode.strict, hl, padTo_self]
  -- the last row: not conforming
  case case11 => nofun
  -- every other row: the item is not null, and nothing else in `decLeaf` asks the mode
  all_goals
    intro
    simp [decLeaf, isNull, strPayload]

theorem decPoint_of_conforms (strip : Bool) (t : Cbor) (xs : List Cbor) (ht : items t = some xs) :
    pointConforms xs = true → decPoint strip t = decPoint false t := by
  unfold decPoint
  rw [ht]
  fun_cases pointConforms xs
  -- the rows of `pointConforms`: `[]`; `[slot, hash]` with the hash definite, then chunked, where neither
  -- item is a tag that `strip55799` would remove; anything else does not conform
  case case1 => exact fun _ => rfl
  case case2 | case3 =>
    intro
    cases strip <;> rfl
  case case4 => nofun

theorem conforms_raw (t : Cbor) : conforms .raw t = true :=
  (strict_iff_conforms .raw t).symm.trans (raw_isSome _ t)

mutual
theorem decVal_of_conforms (m : Mode) : ∀ (s : Shape) (t : Cbor), conforms s t = true →
    decVal m s t = decVal Mode.strict s t
  | s, .tag w n x, h => by
    -- only `.bytes` and `.raw` conform to a tag
    cases s <;> try (cases h; done)
    case bytes =>
      simp only [conforms, Bool.and_eq_true, beq_iff_eq] at h
      obtain ⟨rfl, hx⟩ := h
      simp only [decVal, decide_true, Bool.or_true, ↓reduceIte]
      exact decVal_of_conforms m .bytes x hx
    case raw =>
      simp only [decVal]
      split
      · exact decVal_of_conforms m .raw x (conforms_raw x)
      · rfl
  | s, .arr _ xs, h | s, .arrI xs, h => by
    cases s <;> try (cases h; done)
    case raw => rfl
    case point => exact decPoint_of_conforms _ _ xs rfl h
    case list e => exact congrArg (Option.map Val.l) (decList_of_conforms m e xs h)
    case struct fs => exact congrArg (Option.map Val.s) (decFields_of_conforms m fs xs h)
  | s, .map _ xs, h | s, .mapI xs, h => by
    cases s <;> try (cases h; done)
    case raw => rfl
    case map k e => exact congrArg (Option.map Val.m) (decMap_of_conforms m k e xs h)
  | s, .int _ _ _, h | s, .str _ _ _, h | s, .strI _ _, h | s, .prim _ _, h => decLeaf_of_conforms m s _ h
theorem decList_of_conforms (m : Mode) : ∀ (e : Shape) (xs : List Cbor), conformsL e xs = true →
    decList m e xs = decList Mode.strict e xs
  | _, [], _ => rfl
  | e, x :: xs, h => by
    simp only [conformsL, Bool.and_eq_true] at h
    simp only [decList, decVal_of_conforms m e x h.1, decList_of_conforms m e xs h.2]
theorem decFields_of_conforms (m : Mode) : ∀ (fs : List Shape) (xs : List Cbor), conformsF fs xs = true →
    decFields m fs xs = decFields Mode.strict fs xs
  | [], [], _ => rfl
  | f :: fs, x :: xs, h => by
    simp only [conformsF, Bool.and_eq_true] at h
    simp only [decFields, decVal_of_conforms m f x h.1, decFields_of_conforms m fs xs h.2]
  | [], _ :: _, h => by cases h
  | _ :: _, [], h => by cases h
theorem decMap_of_conforms (m : Mode) : ∀ (k e : Shape) (xs : List Cbor), conformsM k e xs = true →
    decMap m k e xs = decMap Mode.strict k e xs
  | _, _, [], _ => rfl
  | _, _, [_], h => by cases h
  | k, e, x :: y :: xs, h => by
    simp only [conformsM, Bool.and_eq_true] at h
    simp only [decMap, decVal_of_conforms m k x h.1.1, decVal_of_conforms m e y h.1.2,
      decMap_of_conforms m k e xs h.2]
end

theorem strict_lax : ∀ (s : Shape) (t : Cbor) (v : Val), decVal Mode.strict s t = some v → decVal Mode.lax s t = some v
  | s, t, v, h => by
    have hc : conforms s t = true := (strict_iff_conforms s t).symm.trans (Option.isSome_of_eq_some h)
    rw [decVal_of_conforms Mode.lax s t hc, h]
theorem strict_lax_list : ∀ (e : Shape) (xs : List Cbor) (vs : List Val),
    decList Mode.strict e xs = some vs → decList Mode.lax e xs = some vs
  | e, xs, vs, h => by
    have hc : conformsL e xs = true := (strict_iff_conformsL e xs).symm.trans (Option.isSome_of_eq_some h)
    rw [decList_of_conforms Mode.lax e xs hc, h]
theorem strict_lax_fields : ∀ (fs : List Shape) (xs : List Cbor) (vs : List Val),
    decFields Mode.strict fs xs = some vs → decFields Mode.lax fs xs = some vs
  | fs, xs, vs, h => by
    have hc : conformsF fs xs = true := (strict_iff_conformsF fs xs).symm.trans (Option.isSome_of_eq_some h)
    rw [decFields_of_conforms Mode.lax fs xs hc, h]
theorem strict_lax_map : ∀ (k e : Shape) (xs : List Cbor) (vs : List Val),
    decMap Mode.strict k e xs = some vs → decMap Mode.lax k e xs = some vs
  | k, e, xs, vs, h => by
    have hc : conformsM k e xs = true := (strict_iff_conformsM k e xs).symm.trans (Option.isSome_of_eq_some h)
    rw [decMap_of_conforms Mode.lax k e xs hc, h]

end GV.Proofs.MsgCodec
