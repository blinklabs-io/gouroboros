import GV.Lib.CborBytes
/-
  Compiled-code replacements for the byte-layer machine.

  `readHead` and `step` compare `rest.length` with a small number on every step, which
  makes the compiled machine quadratic in the input length (`List.length` walks the whole
  suffix). `shorterThan rest k` answers `rest.length < k` in O(min(|rest|, k)). The
  replacements are PROVED equal (`@[csimp]`): the kernel-checked model is unchanged, only
  compiled code is faster. No `implemented_by`, nothing trusted.
  `@[csimp]` reaches the calls compiled in modules that import this file: the direct calls of
  `readHead` in the extractor models. `runS`, the one caller of `step`, is compiled in
  GV.Lib.CborBytes, before the attributes exist, so `wfItem` still runs the original `step` and
  `readHead` and stays quadratic.
-/
namespace GV.Cbor

def shorterThan : Bytes → Nat → Bool
  | _, 0 => false
  | [], _ + 1 => true
  | _ :: t, k + 1 => shorterThan t k

theorem shorterThan_eq (l : Bytes) (k : Nat) : shorterThan l k = decide (l.length < k) := by
  fun_induction shorterThan l k <;> simp [*]

def readHeadF : Bytes → Head
  | [] => .short
  | x :: rest =>
    if shorterThan rest (argLen (x.toNat % 32)) then .short
    else .mk (x.toNat / 32) (x.toNat % 32)
      (if x.toNat % 32 < 24 then x.toNat % 32 else beNat (rest.take (argLen (x.toNat % 32))))
      (1 + argLen (x.toNat % 32))

@[csimp] theorem readHead_eq_readHeadF : @readHead = @readHeadF := by
  funext b
  cases b with
  | nil => rfl
  | cons x rest => simp [readHead, readHeadF, shorterThan_eq]

def stepF (rest : Bytes) (st : Stack) : Step :=
  match readHead rest with
  | .short => .needMore
  | .mk major ai arg hlen =>
    match action st.head? major ai arg hlen with
    | .bad => .bad
    | .leaf len => if shorterThan rest len then .needMore else finish len (itemDone st)
    | .push f => .cont hlen (f :: st)
    | .brk => finish hlen (itemDone st.tail)

@[csimp] theorem step_eq_stepF : @step = @stepF := by
  funext rest st
  unfold step stepF
  cases readHead rest with
  | short => rfl
  | mk major ai arg hlen =>
    simp only
    cases action st.head? major ai arg hlen <;> simp [shorterThan_eq]

end GV.Cbor
