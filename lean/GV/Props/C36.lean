import GV.Model.Era
import GV.Model.EraConsts
import GV.Gen.Eras
import GV.Gen.EraLadders
/-!
C36 — Era dispatch is consistent across every entry point.

The block type inferred from a header's protocol version belongs to exactly
one era, consistent with each era's declared version range.  The node-to-node
header-era and node-to-client block-type mappings are inverse to each other.
Decoding bytes as block type T yields a block that reports type T and the era
T belongs to.

The tables of `GV.Gen.Eras` are dumped from the running code on every check, the ladders of
`GV.Gen.EraLadders` are extracted from the source; `decide` runs over the complete finite tables,
and the statements about protocol majors are for *every* natural number, not only 0..64.
The last sentence above is established for the dumped fixtures (`decode_type_era`: real blocks
decoded by the running code, at least one per block type 0..8), not for arbitrary bytes.
-/
namespace GV.Props.C36
open GV.Model.Era GV.Gen.Eras

/-- a protocol major lies in an era's declared range -/
def inEra (m : Nat) (e : EraRow) : Prop := e.minPV ≤ m ∧ m ≤ e.maxPV

/-! ### the declared ranges -/

/-- all seven post-Byron eras are present in the dump (so `genConsts` has no dummy range) -/
theorem all_eras_dumped :
    ∀ n ∈ ["shelley", "allegra", "mary", "alonzo", "babbage", "conway", "dijkstra"],
      (rowOf n).isSome = true := by decide

theorem ranges_nonempty : ∀ e ∈ eras, e.minPV ≤ e.maxPV := by decide

theorem eq_of_nodup_map {α β : Type} (f : α → β) (l : List α) (h : (l.map f).Nodup) :
    ∀ a ∈ l, ∀ b ∈ l, f a = f b → a = b := by
  have h := List.pairwise_map.mp h
  exact List.Pairwise.forall_of_forall_of_flip (R := fun a b => f a = f b → a = b) (fun _ _ _ => rfl)
    (h.imp fun hne e => absurd e hne) (h.imp fun hne e => absurd e.symm hne)

/-- block types, header types and era ids identify the era -/
theorem block_types_distinct :
    ∀ e1 ∈ eras, ∀ e2 ∈ eras, e1.blockType = e2.blockType → e1 = e2 :=
  eq_of_nodup_map _ eras (by decide)
theorem header_types_distinct :
    ∀ e1 ∈ eras, ∀ e2 ∈ eras, e1.headerType = e2.headerType → e1 = e2 :=
  eq_of_nodup_map _ eras (by decide)
theorem era_ids_distinct :
    ∀ e1 ∈ eras, ∀ e2 ∈ eras, e1.eraId = e2.eraId → e1 = e2 :=
  eq_of_nodup_map _ eras (by decide)

/-- the declared version ranges of different eras do not overlap -/
theorem ranges_disjoint :
    ∀ e1 ∈ eras, ∀ e2 ∈ eras, e1.eraId ≠ e2.eraId → e1.maxPV < e2.minPV ∨ e2.maxPV < e1.minPV := by
  decide

/-- every protocol major (any natural number) lies in at most one era -/
theorem major_in_at_most_one_era (m : Nat) (e1 e2 : EraRow) (h1 : e1 ∈ eras) (h2 : e2 ∈ eras)
    (hm1 : inEra m e1) (hm2 : inEra m e2) : e1 = e2 := by
  by_cases h : e1.eraId = e2.eraId
  · exact era_ids_distinct e1 h1 e2 h2 h
  · unfold inEra at hm1 hm2
    rcases ranges_disjoint e1 h1 e2 h2 h with hlt | hlt <;> omega

/-- no post-Byron era reuses a Byron identifier -/
theorem byron_separate :
    ∀ e ∈ eras, e.eraId ≠ byronEraId ∧ e.headerType ≠ byronHeaderType ∧
      e.blockType ≠ byronEbbBlockType ∧ e.blockType ≠ byronMainBlockType := by decide

/-- the NtN header type *is* the era id, the era is registered under that id
    with its own name, and `ledger.ProtoMajor<Era>` is the first major of the range -/
theorem ids_consistent :
    ∀ e ∈ eras, e.headerType = e.eraId ∧ e.registeredId = e.eraId ∧
      (e.eraId, e.eraName) ∈ registered ∧ e.ledgerProtoMajor = e.minPV := by decide

/-! ### DetermineBlockType -/

theorem firstMatch_eq_find (m : Nat) (l : List Range) :
    firstMatch m l = (l.find? (inRange m)).map (·.blockType) := by
  induction l with
  | nil => rfl
  | cons r rs ih => rw [firstMatch, List.find?_cons, ih]; cases inRange m r <;> rfl

theorem inRange_iff {m : Nat} {r : Range} : inRange m r = true ↔ r.min ≤ m ∧ m ≤ r.max := by
  simp [inRange]

def toRange (e : EraRow) : Range := ⟨e.minPV, e.maxPV, e.blockType⟩

/-- every rung of either ladder is (min, max, block type) of a dumped era -/
theorem ladders_are_eras :
    ∀ r ∈ ladder15 genConsts ++ ladder10 genConsts, ∃ e ∈ eras, toRange e = r := by decide

theorem firstMatch_era (m : Nat) (l : List Range)
    (hl : l ⊆ ladder15 genConsts ++ ladder10 genConsts) (t : Nat)
    (h : firstMatch m l = some t) : ∃ e ∈ eras, e.blockType = t ∧ inEra m e := by
  rw [firstMatch_eq_find, Option.map_eq_some_iff] at h
  obtain ⟨r, hf, rfl⟩ := h
  obtain ⟨e, he, rfl⟩ := ladders_are_eras r (hl (List.mem_of_find?_eq_some hf))
  exact ⟨e, he, rfl, inRange_iff.mp (List.find?_some hf)⟩

/-- **Inferred type is consistent with the declared range**, for every body
    length and every protocol major: if a type is inferred, it is the block type
    of an era whose declared range contains the major. -/
theorem determine_sound (len m t : Nat) (h : determineMajor genConsts len m = .type t) :
    ∃ e ∈ eras, e.blockType = t ∧ inEra m e := by
  revert h
  fun_cases determineMajor genConsts len m <;> intro h <;> cases h
  -- 15-field body: a rung of `ladder15` fired
  case case1 hf => exact firstMatch_era m _ (List.subset_append_left ..) _ hf
  -- 10-field body: a rung of `ladder10` fired
  case case3 hf => exact firstMatch_era m _ (List.subset_append_right ..) _ hf

/-- **…and belongs to exactly one era**: the era is unique both as "the era of
    that block type" and as "the era containing that major". -/
theorem determine_exactly_one_era (len m t : Nat) (h : determineMajor genConsts len m = .type t) :
    ∃ e ∈ eras, (e.blockType = t ∧ inEra m e) ∧
      (∀ e' ∈ eras, e'.blockType = t → e' = e) ∧ (∀ e' ∈ eras, inEra m e' → e' = e) := by
  obtain ⟨e, he, ht, hm⟩ := determine_sound len m t h
  refine ⟨e, he, ⟨ht, hm⟩, ?_, ?_⟩
  · intro e' he' ht'
    exact block_types_distinct e' he' e he (by omega)
  · intro e' he' hm'
    exact major_in_at_most_one_era m e' e he' he hm' hm

/-- the full `DetermineBlockType` (structure checks included) never infers a
    type outside the era ranges either -/
theorem determine_shape_sound (s : Shape) (t : Nat) (h : determine genConsts s = .type t) :
    ∃ m e, e ∈ eras ∧ e.blockType = t ∧ inEra m e := by
  revert h
  fun_cases determine genConsts s
  -- a 15-field body whose field 13 is the major `m`
  case case4 m => exact fun h => ⟨m, determine_sound _ m t h⟩
  -- a 10-field body whose field 9 begins with the major `m`
  case case8 m rest hlen => exact fun h => ⟨m, determine_sound _ m t h⟩
  -- every other shape is answered by an `.err`
  all_goals exact nofun

theorem eras_on_ladders :
    (∀ e ∈ eras, e.name ∈ ["shelley", "allegra", "mary", "alonzo"] → toRange e ∈ ladder15 genConsts) ∧
    (∀ e ∈ eras, e.name ∈ ["babbage", "conway", "dijkstra", "alonzo", "mary"] → toRange e ∈ ladder10 genConsts) := by
  decide

/-- inside the range of an era standing on a ladder some rung fires, and what the ladder then
    answers is an era containing `m`, of which there is only one -/
theorem firstMatch_complete (m : Nat) (l : List Range)
    (hl : l ⊆ ladder15 genConsts ++ ladder10 genConsts) (e : EraRow) (he : e ∈ eras)
    (hr : toRange e ∈ l) (hm : inEra m e) : firstMatch m l = some e.blockType := by
  have hs : (firstMatch m l).isSome := by
    rw [firstMatch_eq_find, Option.isSome_map, List.find?_isSome]
    exact ⟨_, hr, inRange_iff.mpr hm⟩
  obtain ⟨t, ht⟩ := Option.isSome_iff_exists.mp hs
  obtain ⟨e', he', rfl, hm'⟩ := firstMatch_era m l hl t ht
  rw [ht, major_in_at_most_one_era m e e' he he' hm hm']

/-- which majors are inferred, per layout: every major inside the range of an era on that layout's
    ladder is, as that era's block type (the source order of the cases is immaterial).  The converse
    is `determine_sound`, which gives an era of `eras`, not one on that layout's ladder. -/
theorem determine_complete (m : Nat) :
    (∀ e ∈ eras, e.name ∈ ["shelley", "allegra", "mary", "alonzo"] → inEra m e →
        determineMajor genConsts 15 m = .type e.blockType) ∧
    (∀ e ∈ eras, e.name ∈ ["babbage", "conway", "dijkstra", "alonzo", "mary"] → inEra m e →
        determineMajor genConsts 10 m = .type e.blockType) := by
  constructor
  · intro e he hn hm
    have := firstMatch_complete m _ (List.subset_append_left ..) e he (eras_on_ladders.1 e he hn) hm
    simp only [determineMajor, this]; rfl
  · intro e he hn hm
    have := firstMatch_complete m _ (List.subset_append_right ..) e he (eras_on_ladders.2 e he hn) hm
    simp only [determineMajor, this]; rfl

def ofOpt : Option Nat → Res
  | some t => .type t
  | none => .err "unknown-major"

/-- the model of the version ladders reproduces what the running
    `DetermineBlockType` answered for majors 0..64 in both layouts -/
theorem model_matches_running_code :
    (List.range 65).map (fun m => determineMajor genConsts 15 m) = determine15.map ofOpt ∧
    (List.range 65).map (fun m => determineMajor genConsts 10 m) = determine10.map ofOpt := by
  decide

/-- beyond the dumped 0..64: above the highest declared major nothing is inferred -/
theorem determine_none_above (len m : Nat) (h : 64 < m) :
    ∀ t, determineMajor genConsts len m ≠ .type t := by
  intro t ht
  obtain ⟨e, he, _, hm⟩ := determine_sound len m t ht
  have : ∀ e ∈ eras, e.maxPV ≤ 64 := by decide
  have := this e he
  unfold inEra at hm; omega

/-! ### the ladders of DetermineBlockType, re-extracted from the source -/

/-- the range a rung `(pkg.MinProtocolVersionX, pkg.MaxProtocolVersionX, BlockTypeX)` denotes: the rung
    must name the Min, the Max and the block type of ONE era package (checked against the dumped
    era names), otherwise `none` -/
def rungRange (r : String × String × String) : Option Range :=
  (eras.find? fun e =>
      r.1 == e.name ++ ".MinProtocolVersion" ++ e.eraName &&
      r.2.1 == e.name ++ ".MaxProtocolVersion" ++ e.eraName &&
      r.2.2 == "BlockType" ++ e.eraName).map fun e => ⟨e.minPV, e.maxPV, e.blockType⟩

/-- **Regenerated tie**: the two ladders of the model are, rung by rung and in order, the ladders in
    the Go source of `DetermineBlockType` (each rung = one era's own Min/Max constants and block type;
    a literal, a `+1`, a swapped constant or a reordered/added/removed rung breaks this obligation), the
    two length cases are the two named constants, and `inProtocolRange` is the inclusive test. -/
theorem ladders_as_in_source :
    GV.Gen.EraLadders.lengths = ["HeaderBodyLengthBabbageLike", "HeaderBodyLengthShelleyLike"] ∧
    GV.Gen.EraLadders.HeaderBodyLengthShelleyLike.map rungRange = (ladder15 genConsts).map some ∧
    GV.Gen.EraLadders.HeaderBodyLengthBabbageLike.map rungRange = (ladder10 genConsts).map some ∧
    GV.Gen.EraLadders.inProtocolRange = ["return protoMajor >= min && protoMajor <= max"] := by
  decide +kernel

/-! ### the two maps -/

/-- the NtN→NtC map is exactly (header type ↦ block type) of the seven eras, and
    the NtC→NtN map is exactly its converse -/
theorem maps_are_era_tables :
    headerToBlock = eras.map (fun e => (e.headerType, e.blockType)) ∧
    blockToHeader = eras.map (fun e => (e.blockType, e.headerType)) := by decide

/-- the maps are mutually inverse (as Go maps: keys are unique, lookups total on
    the other map's values) -/
theorem maps_inverse :
    (∀ p ∈ headerToBlock, lookup p.2 blockToHeader = some p.1) ∧
    (∀ p ∈ blockToHeader, lookup p.2 headerToBlock = some p.1) ∧
    (headerToBlock.map (·.1)).Nodup ∧ (blockToHeader.map (·.1)).Nodup := by decide

theorem lookup_mem (k v : Nat) (l : List (Nat × Nat)) (h : lookup k l = some v) : (k, v) ∈ l := by
  fun_induction lookup k l with
  | case1 => cases h
  | case2 b rest => cases h; exact List.mem_cons_self
  | case3 a b rest _ ih => exact List.mem_cons_of_mem _ (ih h)

/-- stated over all keys (any natural numbers): h ↦ b in one map iff b ↦ h in the other -/
theorem maps_inverse_iff (h b : Nat) :
    lookup h headerToBlock = some b ↔ lookup b blockToHeader = some h := by
  constructor
  · intro hl
    exact maps_inverse.1 (h, b) (lookup_mem h b _ hl)
  · intro hl
    exact maps_inverse.2.1 (b, h) (lookup_mem b h _ hl)

/-! ### decoding as type T -/

/-- every block type the decoder switch of ledger/block.go knows (0..8) belongs to exactly one era id;
    the bound is written out here: the switch's case list is not among the regenerated tables -/
theorem every_type_has_era : ∀ t < 9, (eraOfType t).isSome = true := by decide
theorem no_era_for_unknown_types (t : Nat) (h : 9 ≤ t) : eraOfType t = none := by
  have h1 : ∀ e ∈ eras, e.blockType < 9 := by decide
  unfold eraOfType
  have hb : ¬ (t = byronEbbBlockType ∨ t = byronMainBlockType) := by
    simp only [byronEbbBlockType, byronMainBlockType]; omega
  simp only [hb, ↓reduceIte, Option.map_eq_none_iff, List.find?_eq_none]
  intro e he
  have := h1 e he
  simp only [beq_iff_eq]; omega

/-- **Decoding as T reports T and T's era**: every real fixture decoded through
    `NewBlockFromCbor(T, …)` reports `Type() = T`, and the block, its embedded
    header and the header decoded on its own through `NewBlockHeaderFromCbor(T, …)`
    all report the era T belongs to. -/
theorem decode_type_era :
    ∀ r ∈ decoded, r.2.1 = r.1 ∧ some r.2.2.1 = eraOfType r.1 ∧
      r.2.2.2.1 = r.2.2.1 ∧ r.2.2.2.2 = r.2.2.1 := by decide

/-- …and the fixtures cover every block type 0..8 -/
theorem decode_covers_all_types : ∀ t < 9, t ∈ decoded.map (·.1) := by decide

/-! non-vacuity -/
example : determineMajor genConsts 10 9 = .type 7 := by decide
example : determineMajor genConsts 15 9 = .err "unknown-major" := by decide
example : determine genConsts (.body 10 .nonUint (some [.uint 12, .uint 0])) = .type 8 := by decide
example : ∃ e ∈ eras, inEra 10 e := ⟨⟨"conway", 6, "Conway", 6, 9, 11, 7, 6, 9⟩, by decide, by simp [inEra]⟩

end GV.Props.C36
