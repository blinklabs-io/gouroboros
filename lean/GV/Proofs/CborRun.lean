import GV.Lib.CborTree
import GV.Lib.CborBytes
import GV.Proofs.CborBytes
/-
  Accepting runs of the byte-level machine `GV.Cbor.runS` without fuel (`Acc`, `Cont`), and what
  such a run does on each form of head the tree layer writes: one equivalence per form.
  Both directions of the tie between the two CBOR libraries are read off these equivalences:
  a valid tree drives the machine (GV.Proofs.CborLibs, right to left), an accepting run spells
  out a valid tree (GV.Proofs.CborLibsConv, left to right).
  Everything here is declared in the namespace `GV.Proofs.CborLibsConv` (there is no
  `GV.Proofs.CborRun`): the second file continues that namespace, the first opens it.
-/
namespace GV.Proofs.CborLibsConv
open GV.CborT
open GV.Cbor (runS step Step Frame Stack Res itemDone action actionCore Act brkOk argLen beNat finish
  isStrFrame)

theorem readHead_tie (b : Bytes) :
    match GV.CborT.readHead b with
    | some (m, .val w n, _) => GV.Cbor.readHead b = .mk m (w.ai n) n (1 + w.nbytes)
    | some (m, .indef, _) => GV.Cbor.readHead b = .mk m 31 0 1
    | none => ∀ m a v h, GV.Cbor.readHead b = .mk m a v h → 28 ≤ a ∧ a ≤ 30 := by
  cases b with
  | nil => intro m a v h hh; cases hh
  | cons x tl =>
    -- both are ladders over the additional information, which is below 32
    have hai : x.toNat % 32 < 32 := Nat.mod_lt _ (by decide)
    simp only [GV.CborT.readHead, readArg, GV.Cbor.readHead, argLen]
    generalize x.toNat % 32 = ai at hai ⊢
    grind [W.ai, W.nbytes, beNat, fromBe]

theorem readHead_enc (m : Nat) (w : W) (n : Nat) (r : Bytes) (hm : m < 8) (hf : w.fits n = true) :
    GV.Cbor.readHead (head m w n ++ r) = .mk m (w.ai n) n (1 + w.nbytes) := by
  have := readHead_tie (head m w n ++ r)
  rwa [readHead_head m w n r hm hf] at this

theorem readHead_enc_indef (m : Nat) (hm : m < 8) (r : Bytes) :
    GV.Cbor.readHead (UInt8.ofNat (m * 32 + 31) :: r) = .mk m 31 0 1 := by
  have := readHead_tie (UInt8.ofNat (m * 32 + 31) :: r)
  rwa [GV.CborT.readHead_indef m hm r] at this

theorem head_drop (m : Nat) (w : W) (n : Nat) (r : Bytes) : (head m w n ++ r).drop (1 + w.nbytes) = r :=
  List.drop_left' (head_length m w n)

theorem head_drop_add (m : Nat) (w : W) (n : Nat) (r : Bytes) (k : Nat) :
    (head m w n ++ r).drop (1 + w.nbytes + k) = r.drop k := by
  rw [← List.drop_drop, head_drop]

/-- the machine, started on `r` at absolute position `p` under the stack `st`, accepts and
    the top-level item ends at position `n` -/
def Acc (r : Bytes) (p : Nat) (st : Stack) (n : Nat) : Prop := runS (r.length + 1) r p st = .ok n

/-- what remains to be accepted once one complete item has been read below `st` -/
def Cont (st : Stack) (r : Bytes) (p n : Nat) : Prop :=
  match itemDone st with
  | none => n = p
  | some s => Acc r p s n

-- the last link of an `Iff` chain: leaves the equation between the two positions as the goal
theorem cont_pos {st : Stack} {r : Bytes} {p p' n : Nat} (hp : p = p') : Cont st r p n ↔ Cont st r p' n := by
  rw [hp]

theorem cont_defn_one (st : Stack) (r : Bytes) (p n : Nat) :
    Cont (.defn 1 :: st) r p n = Cont st r p n := by
  simp [Cont, itemDone]

theorem cont_defn_succ (k : Nat) (st : Stack) (r : Bytes) (p n : Nat) :
    Cont (.defn (k + 2) :: st) r p n = Acc r p (.defn (k + 1) :: st) n := by
  simp [Cont, itemDone]

theorem acc_iff (r : Bytes) (p : Nat) (st : Stack) (n : Nat) :
    Acc r p st n ↔ match step r st with
      | .bad => False
      | .needMore => False
      | .fin c => n = p + c
      | .cont c st' => Acc (r.drop c) (p + c) st' n := by
  unfold Acc
  rw [runS]
  cases hs : step r st with
  | bad => simp
  | needMore => simp
  | fin c => simp [eq_comm]
  | cont c st' =>
    have hb := GV.Cbor.step_bounds hs
    simp only
    rw [GV.Cbor.runS_fuel_irrel (f' := (r.drop c).length + 1)] <;> (simp only [List.length_drop]; omega)

theorem acc_mk {r : Bytes} {m a v hl : Nat} (hh : GV.Cbor.readHead r = .mk m a v hl) (p : Nat) (st : Stack)
    (n : Nat) :
    Acc r p st n ↔ match action st.head? m a v hl with
      | .bad => False
      | .leaf len => len ≤ r.length ∧ Cont st (r.drop len) (p + len) n
      | .push fr => Acc (r.drop hl) (p + hl) (fr :: st) n
      | .brk => Cont st.tail (r.drop hl) (p + hl) n := by
  have fin : ∀ c st0, (match finish c (itemDone st0) with
      | .bad => False
      | .needMore => False
      | .fin c => n = p + c
      | .cont c st' => Acc (r.drop c) (p + c) st' n) ↔ Cont st0 (r.drop c) (p + c) n := by
    intro c st0; unfold Cont; cases itemDone st0 <;> simp [finish]
  rw [acc_iff, step]
  simp only [hh]
  cases hact : action st.head? m a v hl with
  | bad => exact Iff.rfl
  | push fr => exact Iff.rfl
  | brk => exact fin _ _
  | leaf len =>
    by_cases hlen : r.length < len
    · simp only [hlen, ↓reduceIte, false_iff, not_and]; omega
    · simp only [hlen, ↓reduceIte, Nat.not_lt.mp hlen, true_and]; exact fin _ _

theorem acc_short {r : Bytes} {p : Nat} {st : Stack} {n : Nat} (h : Acc r p st n)
    (hh : GV.Cbor.readHead r = .short) : False := by
  rw [acc_iff, step] at h; simp only [hh] at h

theorem action_core {top : Option Frame} {m a : Nat} (v h : Nat) (hs : isStrFrame top = false)
    (hnb : ¬ (m = 7 ∧ a = 31)) (ha : ¬ (28 ≤ a ∧ a ≤ 30)) : action top m a v h = actionCore m a v h := by
  unfold action
  rw [if_neg ha]
  cases top with
  | none => simp [hnb]
  | some fr => cases fr <;> simp [isStrFrame] at hs <;> simp [hnb]

theorem action_break (top : Option Frame) (v h : Nat) :
    action top 7 31 v h = if isStrFrame top || brkOk top then .brk else .bad := by
  cases top with
  | none => rfl
  | some fr =>
    cases fr with
    | defn k => rfl
    | indefArr => rfl
    | indefMap o => cases o <;> rfl
    | indefStr k => rfl

theorem action_str (k m a v h : Nat) :
    action (some (.indefStr k)) m a v h =
      if 28 ≤ a ∧ a ≤ 30 then .bad
      else if m = 7 ∧ a = 31 then .brk
      else if m = k ∧ a ≠ 31 then .leaf (h + v) else .bad := rfl

/-- the break byte `0xff` counts as the indefinite initial byte with `m = 7` -/
theorem acc_starts {rest : Bytes} {p : Nat} {st : Stack} {n : Nat} (h : Acc rest p st n) :
    ∃ m, m < 8 ∧ ((∃ w v r, w.fits v = true ∧ rest = head m w v ++ r) ∨
      ∃ r, rest = UInt8.ofNat (m * 32 + 31) :: r) := by
  rcases readHead_cases rest with hrh | ⟨m, w, v, r, hm, hf, he, _⟩ | ⟨m, r, hm, he, _⟩
  · have htie := readHead_tie rest
    rw [hrh] at htie
    cases hb : GV.Cbor.readHead rest with
    | short => exact (acc_short h hb).elim
    | mk m a v hl =>
      have : action st.head? m a v hl = .bad := by unfold action; rw [if_pos (htie m a v hl hb)]
      rw [acc_mk hb, this] at h; exact h.elim
  · exact ⟨m, hm, .inl ⟨w, v, r, hf, he⟩⟩
  · exact ⟨m, hm, .inr ⟨r, he⟩⟩

theorem acc_head {m : Nat} {w : W} {v : Nat} {st : Stack} (r : Bytes) (p n : Nat) (hm : m < 8)
    (hf : w.fits v = true) (hs : isStrFrame st.head? = false) :
    Acc (head m w v ++ r) p st n ↔ match actionCore m (w.ai v) v (1 + w.nbytes) with
      | .leaf len => len ≤ (head m w v ++ r).length ∧ Cont st ((head m w v ++ r).drop len) (p + len) n
      | .push fr => Acc r (p + (1 + w.nbytes)) (fr :: st) n
      | _ => False := by
  have hai := W.ai_lt w v hf
  rw [acc_mk (readHead_enc m w v r hm hf), action_core _ _ hs (by omega) (by omega)]
  cases hac : actionCore m (w.ai v) v (1 + w.nbytes) with
  | bad => exact Iff.rfl
  | brk => exact absurd hac (GV.Cbor.actionCore_ne_brk _ _ _ _)
  | leaf len => exact Iff.rfl
  | push fr => simp only [head_drop]

theorem ai_ne_31 {w : W} {v : Nat} (hf : w.fits v = true) : w.ai v ≠ 31 := by
  have := W.ai_lt w v hf; omega

theorem acc_int {m : Nat} {w : W} {v : Nat} {st : Stack} (r : Bytes) (p n : Nat) (hm : m < 2)
    (hf : w.fits v = true) (hs : isStrFrame st.head? = false) :
    Acc (head m w v ++ r) p st n ↔ Cont st r (p + (1 + w.nbytes)) n := by
  rw [acc_head r p n (by omega) hf hs]
  rcases (by omega : m = 0 ∨ m = 1) with rfl | rfl <;> simp [actionCore, ai_ne_31 hf, head_length]

theorem acc_str {m : Nat} {w : W} {v : Nat} {st : Stack} (r : Bytes) (p n : Nat) (hm : m = 2 ∨ m = 3)
    (hf : w.fits v = true) (hs : isStrFrame st.head? = false) :
    Acc (head m w v ++ r) p st n ↔ v ≤ r.length ∧ Cont st (r.drop v) (p + (1 + w.nbytes + v)) n := by
  rw [acc_head r p n (by omega) hf hs]
  rcases hm with rfl | rfl <;> simp [actionCore, ai_ne_31 hf, head_length, head_drop_add]

/-- The head of an array of `v` items leaves the machine where it is after one item below a frame
    that expected `v + 1`. -/
theorem acc_arr {w : W} {v : Nat} {st : Stack} (r : Bytes) (p n : Nat)
    (hf : w.fits v = true) (hs : isStrFrame st.head? = false) :
    Acc (head 4 w v ++ r) p st n ↔ Cont (.defn (v + 1) :: st) r (p + (1 + w.nbytes)) n := by
  have h31 := ai_ne_31 hf
  rw [acc_head r p n (by omega) hf hs]
  cases v with
  | zero => simp [actionCore, h31, head_length, cont_defn_one]
  | succ k => simp [actionCore, h31, cont_defn_succ]

theorem acc_map {w : W} {v : Nat} {st : Stack} (r : Bytes) (p n : Nat)
    (hf : w.fits v = true) (hs : isStrFrame st.head? = false) :
    Acc (head 5 w v ++ r) p st n ↔ Cont (.defn (2 * v + 1) :: st) r (p + (1 + w.nbytes)) n := by
  have h31 := ai_ne_31 hf
  rw [acc_head r p n (by omega) hf hs]
  cases v with
  | zero => simp [actionCore, h31, head_length, cont_defn_one]
  | succ k => simp [actionCore, h31, show 2 * (k + 1) + 1 = 2 * k + 1 + 2 from by omega, cont_defn_succ]; rfl

theorem acc_tag {w : W} {v : Nat} {st : Stack} (r : Bytes) (p n : Nat)
    (hf : w.fits v = true) (hs : isStrFrame st.head? = false) :
    Acc (head 6 w v ++ r) p st n ↔ Acc r (p + (1 + w.nbytes)) (.defn 1 :: st) n := by
  rw [acc_head r p n (by omega) hf hs]
  simp [actionCore, ai_ne_31 hf]

theorem acc_prim {w : W} {v : Nat} {st : Stack} (r : Bytes) (p n : Nat)
    (hf : w.fits v = true) (hs : isStrFrame st.head? = false) :
    Acc (head 7 w v ++ r) p st n ↔ primFits w v = true ∧ Cont st r (p + (1 + w.nbytes)) n := by
  -- a two-byte simple value below 32 is the one argument that fits its width and is refused
  have h24 : (w.ai v = 24 ∧ v < 32) ↔ ¬ primFits w v = true := by
    cases w <;> simp_all [primFits, W.ai, W.fits] <;> omega
  rw [acc_head r p n (by omega) hf hs]
  by_cases hp : primFits w v = true <;> simp [actionCore, ai_ne_31 hf, h24, hp, head_length]

theorem acc_chunk {m k : Nat} {w : W} {v : Nat} {st : Stack} (r : Bytes) (p n : Nat) (hm : m < 8)
    (hf : w.fits v = true) :
    Acc (head m w v ++ r) p (.indefStr k :: st) n ↔
      m = k ∧ v ≤ r.length ∧ Acc (r.drop v) (p + (1 + w.nbytes + v)) (.indefStr k :: st) n := by
  have hai := W.ai_lt w v hf
  rw [acc_mk (readHead_enc m w v r hm hf), List.head?_cons, action_str, if_neg (by omega), if_neg (by omega)]
  by_cases hk : m = k
  · simp [hk, ai_ne_31 hf, head_length, head_drop_add, Cont, itemDone]
  · simp [hk]

theorem ofNat_ff : UInt8.ofNat (7 * 32 + 31) = (0xff : UInt8) := by decide

theorem acc_break (r : Bytes) (p : Nat) (st : Stack) (n : Nat) :
    Acc (0xff :: r) p st n ↔ (isStrFrame st.head? || brkOk st.head?) = true ∧ Cont st.tail r (p + 1) n := by
  rw [← ofNat_ff, acc_mk (readHead_enc_indef 7 (by decide) r), action_break]
  cases isStrFrame st.head? || brkOk st.head? <;> simp

-- `generalizing := false`: otherwise `hm` becomes a second discriminant of the `match`
theorem acc_open {m : Nat} {st : Stack} (r : Bytes) (p n : Nat) (hm : m < 7)
    (hs : isStrFrame st.head? = false) :
    Acc (UInt8.ofNat (m * 32 + 31) :: r) p st n ↔ match (generalizing := false) m with
      | 2 | 3 => Acc r (p + 1) (.indefStr m :: st) n
      | 4 => Acc r (p + 1) (.indefArr :: st) n
      | 5 => Acc r (p + 1) (.indefMap false :: st) n
      | _ => False := by
  rw [acc_mk (readHead_enc_indef m (by omega) r), action_core _ _ hs (by omega) (by omega)]
  rcases (by omega : m = 0 ∨ m = 1 ∨ m = 2 ∨ m = 3 ∨ m = 4 ∨ m = 5 ∨ m = 6) with
    rfl | rfl | rfl | rfl | rfl | rfl | rfl <;> simp [actionCore]

theorem acc_chunk_indef {m k : Nat} {st : Stack} {r : Bytes} {p n : Nat} (hm : m < 7) :
    ¬ Acc (UInt8.ofNat (m * 32 + 31) :: r) p (.indefStr k :: st) n := by
  rw [acc_mk (readHead_enc_indef m (by omega) r)]
  simp [action_str, show m ≠ 7 by omega]

end GV.Proofs.CborLibsConv
