import GV.Proofs.CborRun
import GV.Proofs.CborLibs
/-
  The converse of `GV.Proofs.CborLibs.decode_imp_wfItem`: whatever the byte-level stack
  machine `GV.Cbor.wfItem` (byte layer) accepts, the tree decoder `GV.CborT.decode`
  (tree layer) accepts, consuming exactly the same bytes (`wfItem_imp_decode`,
  `wfItem_ok_iff_decode`). So the two independent CBOR models of the framework accept exactly
  the same byte strings with the same consumed length (no depth hypothesis: neither model has
  a nesting limit).

  Proof: a parser-correctness argument.  An accepting run of the machine below an arbitrary
  frame stack `st` (whose top is not an indefinite string) starts with the break byte or with
  the encoding of a valid annotated tree `t` (`item`); how the run goes on after that item is
  `CborLibs.follows`, read from left to right.  Recursion on the input length, mutual with the
  sequence lemmas for the frame kinds (`seq_defn`, `seq_arr`, `seq_map`; `chunks` for the chunks
  of an indefinite string, which holds no items); every step is one of the equivalences of
  GV.Proofs.CborRun read from left to right.  Then `decode_enc`.
-/
namespace GV.Proofs.CborLibsConv
open GV.CborT
open GV.Cbor (runS step Step Frame Stack Res itemDone action actionCore Act brkOk argLen beNat finish
  isStrFrame)

theorem chunks (k : Nat) : ∀ (L : Nat) (r : Bytes) (p : Nat) (st : Stack) (n : Nat), r.length < L →
    Acc r p (.indefStr k :: st) n →
    ∃ cs r', chunksValid cs = true ∧ r = encChunks k cs ++ 0xff :: r' ∧
      Cont st r' (p + (encChunks k cs).length + 1) n := by
  -- `L` only measures the induction: `item` passes `r.length + 1`
  intro L
  induction L with
  | zero => intro r p st n hr; omega
  | succ L ih =>
    intro r p st n hr h
    obtain ⟨m, hm, ⟨w, v, r1, hf, rfl⟩ | ⟨r1, rfl⟩⟩ := acc_starts h
    · obtain ⟨rfl, hv, h'⟩ := (acc_chunk r1 p n hm hf).mp h
      simp only [List.length_append, head_length] at hr
      obtain ⟨cs, r', hvs, hes, hcs⟩ := ih _ _ st n (by rw [List.length_drop]; omega) h'
      have htl : (r1.take v).length = v := List.length_take_of_le (by omega)
      refine ⟨(w, r1.take v) :: cs, r', by simp [chunksValid, htl, hf, hvs], ?_, (cont_pos ?_).mp hcs⟩
      · rw [encChunks, htl, List.append_assoc, List.append_assoc, ← hes, List.take_append_drop]
      · simp [encChunks, htl, head_length]; omega
    · by_cases h7 : m = 7
      · subst h7
        exact ⟨[], r1, rfl, rfl, ((acc_break r1 p _ n).mp h).2⟩
      · exact (acc_chunk_indef (by omega) h).elim

theorem ofNat_5f : UInt8.ofNat (2 * 32 + 31) = (0x5f : UInt8) := by decide
theorem ofNat_7f : UInt8.ofNat (3 * 32 + 31) = (0x7f : UInt8) := by decide

-- The measure is the length of the input; a sequence lemma calls `item` on the input it was given,
-- hence its `+ 1`.
mutual
theorem seq_defn : ∀ (k : Nat) (r : Bytes) (p : Nat) (st : Stack) (n : Nat), Cont (.defn (k + 1) :: st) r p n →
    ∃ xs r', validL xs = true ∧ xs.length = k ∧ r = encL xs ++ r'
  | 0, r, _, _, _, _ => ⟨[], r, rfl, rfl, rfl⟩
  | k + 1, r, p, st, n, h => by
    rw [cont_defn_succ] at h
    rcases item r p _ n rfl h with ⟨r1, rfl⟩ | ⟨t, r1, hv, rfl⟩
    -- a break is accepted only under an indefinite frame: under this one the test computes to `false`
    · exact absurd ((acc_break r1 p _ n).mp h).1 Bool.false_ne_true
    · obtain ⟨xs, r', hvs, hl, rfl⟩ := seq_defn k r1 _ st n ((CborLibs.follows t hv _ rfl r1 p n).mp h)
      exact ⟨t :: xs, r', by simp [validL, hv, hvs], by simp [hl], by simp [encL]⟩
termination_by _ r => 2 * r.length + 1
decreasing_by
  all_goals subst_vars
  all_goals simp [enc_length_pos]
theorem seq_arr : ∀ (r : Bytes) (p : Nat) (st : Stack) (n : Nat), Acc r p (.indefArr :: st) n →
    ∃ xs r', validL xs = true ∧ r = encL xs ++ 0xff :: r'
  | r, p, st, n, h => by
    rcases item r p _ n rfl h with ⟨r1, rfl⟩ | ⟨t, r1, hv, rfl⟩
    · exact ⟨[], r1, rfl, rfl⟩
    · obtain ⟨xs, r', hvs, rfl⟩ := seq_arr r1 _ st n ((CborLibs.follows t hv _ rfl r1 p n).mp h)
      exact ⟨t :: xs, r', by simp [validL, hv, hvs], by simp [encL]⟩
termination_by r => 2 * r.length + 1
decreasing_by
  all_goals subst_vars
  all_goals simp [enc_length_pos]
theorem seq_map : ∀ (r : Bytes) (p : Nat) (st : Stack) (n : Nat) (o : Bool), Acc r p (.indefMap o :: st) n →
    ∃ xs r', validL xs = true ∧ xs.length % 2 = (if o then 1 else 0) ∧ r = encL xs ++ 0xff :: r'
  | r, p, st, n, o, h => by
    rcases item r p _ n rfl h with ⟨r1, rfl⟩ | ⟨t, r1, hv, rfl⟩
    · cases o with
      | true => exact absurd ((acc_break r1 p _ n).mp h).1 Bool.false_ne_true
      | false => exact ⟨[], r1, rfl, rfl, rfl⟩
    · obtain ⟨xs, r', hvs, hpar, rfl⟩ := seq_map r1 _ st n (!o) ((CborLibs.follows t hv _ rfl r1 p n).mp h)
      refine ⟨t :: xs, r', by simp [validL, hv, hvs], ?_, by simp [encL]⟩
      cases o <;> simp at hpar ⊢ <;> omega
termination_by r => 2 * r.length + 1
decreasing_by
  all_goals subst_vars
  all_goals simp [enc_length_pos]
theorem item : ∀ (rest : Bytes) (pos : Nat) (st : Stack) (n : Nat), isStrFrame st.head? = false →
    Acc rest pos st n → (∃ r, rest = 0xff :: r) ∨ ∃ t r', t.valid = true ∧ rest = enc t ++ r'
  | rest, pos, st, n, hns, h => by
    obtain ⟨m, hm, ⟨w, v, r, hf, rfl⟩ | ⟨r, rfl⟩⟩ := acc_starts h
    · right
      rcases (by omega : m = 0 ∨ m = 1 ∨ m = 2 ∨ m = 3 ∨ m = 4 ∨ m = 5 ∨ m = 6 ∨ m = 7) with
        rfl | rfl | rfl | rfl | rfl | rfl | rfl | rfl
      · exact ⟨.int false w v, r, hf, rfl⟩
      · exact ⟨.int true w v, r, hf, rfl⟩
      · have htl : (r.take v).length = v := List.length_take_of_le ((acc_str r pos n (.inl rfl) hf hns).mp h).1
        exact ⟨.str false w (r.take v), r.drop v, by simp [Cbor.valid, htl, hf], by simp [enc, strMajor, htl]⟩
      · have htl : (r.take v).length = v := List.length_take_of_le ((acc_str r pos n (.inr rfl) hf hns).mp h).1
        exact ⟨.str true w (r.take v), r.drop v, by simp [Cbor.valid, htl, hf], by simp [enc, strMajor, htl]⟩
      · obtain ⟨xs, r', hvs, rfl, rfl⟩ := seq_defn v r _ st n ((acc_arr r pos n hf hns).mp h)
        exact ⟨.arr w xs, r', by simp [Cbor.valid, hf, hvs], by simp [enc]⟩
      · obtain ⟨xs, r', hvs, hxl, rfl⟩ := seq_defn (2 * v) r _ st n ((acc_map r pos n hf hns).mp h)
        have hx2 : xs.length / 2 = v := by omega
        exact ⟨.map w xs, r', by simp [Cbor.valid, hx2, hf, hvs]; omega, by simp [enc, hx2]⟩
      · have h' := (acc_tag r pos n hf hns).mp h
        rcases item r _ _ n rfl h' with ⟨r1, rfl⟩ | ⟨x, r', hvx, rfl⟩
        · exact absurd ((acc_break r1 _ _ n).mp h').1 Bool.false_ne_true
        · exact ⟨.tag w v x, r', by simp [Cbor.valid, hf, hvx], by simp [enc]⟩
      · exact ⟨.prim w v, r, ((acc_prim r pos n hf hns).mp h).1, rfl⟩
    · by_cases h7 : m = 7
      · exact .inl ⟨r, by rw [h7, ofNat_ff]⟩
      right
      have h' := (acc_open r pos n (by omega) hns).mp h
      rcases (by omega : m = 0 ∨ m = 1 ∨ m = 2 ∨ m = 3 ∨ m = 4 ∨ m = 5 ∨ m = 6) with
        rfl | rfl | rfl | rfl | rfl | rfl | rfl
      · exact h'.elim
      · exact h'.elim
      · obtain ⟨cs, r', hvs, rfl, _⟩ := chunks 2 _ _ _ st n (Nat.lt_succ_self _) h'
        exact ⟨.strI false cs, r', hvs, by simp [enc, strMajor]⟩
      · obtain ⟨cs, r', hvs, rfl, _⟩ := chunks 3 _ _ _ st n (Nat.lt_succ_self _) h'
        exact ⟨.strI true cs, r', hvs, by simp [enc, strMajor]⟩
      · obtain ⟨xs, r', hvs, rfl⟩ := seq_arr _ _ st n h'
        exact ⟨.arrI xs, r', hvs, by simp [enc]⟩
      · obtain ⟨xs, r', hvs, hpar, rfl⟩ := seq_map _ _ st n false h'
        exact ⟨.mapI xs, r', by simpa [Cbor.valid, hvs] using hpar, by simp [enc]⟩
      · exact h'.elim
termination_by rest => 2 * rest.length
decreasing_by
  all_goals subst_vars
  all_goals simp [head_length]
  all_goals omega
end

theorem wfItem_imp_tree {b : Bytes} {n : Nat} (h : GV.Cbor.wfItem b = .ok n) :
    ∃ t, decode b = some (t, b.drop n) ∧ enc t = b.take n := by
  have hacc : Acc b 0 [] n := by rw [GV.Cbor.wfItem_eq] at h; exact h
  rcases item b 0 [] n rfl hacc with ⟨r, rfl⟩ | ⟨t, r', hv, rfl⟩
  · exact absurd ((acc_break r 0 [] n).mp hacc).1 Bool.false_ne_true
  rw [CborLibs.wfItem_enc t hv r'] at h
  obtain rfl := Res.ok.inj h
  exact ⟨t, by rw [List.drop_left]; exact decode_enc t hv r', by rw [List.take_left]⟩

theorem wfItem_imp_decode {b : Bytes} {n : Nat} (h : GV.Cbor.wfItem b = .ok n) :
    ∃ t, decode b = some (t, b.drop n) :=
  (wfItem_imp_tree h).imp fun _ ht => ht.1

theorem wfItem_ok_iff_decode (b : Bytes) (n : Nat) :
    GV.Cbor.wfItem b = .ok n ↔ (n ≤ b.length ∧ ∃ t, decode b = some (t, b.drop n)) := by
  constructor
  · intro h
    exact ⟨(GV.Cbor.wf_consumes_le h).2, wfItem_imp_decode h⟩
  · rintro ⟨hn, t, hd⟩
    have := CborLibs.decode_imp_wfItem hd
    rw [this, List.length_drop]
    congr 1; omega

theorem wfItem_accepts_iff_decode (b : Bytes) :
    (∃ n, GV.Cbor.wfItem b = .ok n) ↔ (∃ t r, decode b = some (t, r)) := by
  constructor
  · rintro ⟨n, h⟩
    obtain ⟨t, ht⟩ := wfItem_imp_decode h
    exact ⟨t, _, ht⟩
  · rintro ⟨t, r, h⟩
    exact ⟨_, CborLibs.decode_imp_wfItem h⟩

theorem decode_none_imp_wfItem_reject {b : Bytes} (h : decode b = none) (n : Nat) :
    GV.Cbor.wfItem b ≠ .ok n := by
  intro hw
  obtain ⟨t, ht⟩ := wfItem_imp_decode hw
  rw [h] at ht; cases ht

theorem wfItem_decode_enc {b : Bytes} {n : Nat} {t : Cbor} {r : Bytes} (h : GV.Cbor.wfItem b = .ok n)
    (hd : decode b = some (t, r)) : r = b.drop n ∧ enc t = b.take n := by
  obtain ⟨t', hd', he⟩ := wfItem_imp_tree h
  rw [hd] at hd'
  cases hd'
  exact ⟨rfl, he⟩

/-! ### non-vacuity and the corner cases both models must agree on -/

/-- `[_ 1, h'aa']` followed by a stray byte: accepted by the machine with length 5 … -/
example : GV.Cbor.wfItem [0x9f, 0x01, 0x41, 0xaa, 0xff, 0x00] = .ok 5 := by decide
/-- … hence decoded by the tree layer, leaving exactly the stray byte -/
example : ∃ t, decode [0x9f, 0x01, 0x41, 0xaa, 0xff, 0x00] = some (t, [0x00]) :=
  wfItem_imp_decode (b := [0x9f, 0x01, 0x41, 0xaa, 0xff, 0x00]) (n := 5) (by decide)
/-- nested: tag 1 over `{_ 1: (_ h'aa', h'') }` with a non-minimal head `0x18 0x01` -/
example : ∃ t, decode [0xc1, 0xbf, 0x18, 0x01, 0x5f, 0x41, 0xaa, 0x40, 0xff, 0xff] = some (t, []) :=
  wfItem_imp_decode (b := [0xc1, 0xbf, 0x18, 0x01, 0x5f, 0x41, 0xaa, 0x40, 0xff, 0xff]) (n := 10) (by decide)

/-- corner cases, rejected by both: reserved additional info 28, stray break, two-byte simple
    value < 32, indefinite text string with a byte-string chunk, nested indefinite chunk,
    indefinite map with an odd number of items, indefinite-length integer / tag, break as a
    tag's content or inside a definite array -/
example : ∀ b ∈ ([[0x1c], [0xff], [0xf8, 0x1f], [0x7f, 0x41, 0x00, 0xff], [0x5f, 0x5f, 0xff, 0xff],
      [0xbf, 0x01, 0xff], [0x1f], [0xdf, 0x00], [0xc1, 0xff], [0x81, 0xff]] : List Bytes),
    GV.Cbor.wfItem b = .bad ∧ decode b = none := by decide
/-- truncated input: `needMore` on the byte layer, `none` on the tree layer -/
example : ∀ b ∈ ([[], [0x18], [0x42, 0x00], [0x9f, 0x01], [0xbf, 0x01, 0x02], [0xc1], [0x82, 0x01]] : List Bytes),
    GV.Cbor.wfItem b = .needMore ∧ decode b = none := by decide
/-- accepted by both with the same length: simple value 32 in two bytes, half float, non-minimal
    lengths, empty indefinite containers, a tag chain -/
example : ∀ b ∈ ([[0xf8, 0x20], [0xf9, 0x00, 0x00], [0x98, 0x00], [0xb9, 0x00, 0x00], [0x5f, 0xff],
      [0x9f, 0xff], [0xbf, 0xff], [0xc1, 0xc2, 0x00], [0xa1, 0x01, 0x9f, 0xff]] : List Bytes),
    GV.Cbor.wfItem b = .ok b.length ∧ (decode b).map (·.2) = some [] := by decide

end GV.Proofs.CborLibsConv
