import GV.Props.C09
import GV.Props.C10
import GV.Props.C10cbor
/-!
C10 (with C09) — END-TO-END TRANSPORT THEOREM.

Composition of two halves:

* C09 (`GV.Props.C09.delivery_intact`): for every interleaving of the per-protocol segment
  lists on the wire and every fragmentation of the byte stream, the muxer's read loop +
  demultiplexer hands each registered receiver exactly its own payloads in send order.
* C10 (`GV.Props.C10.end_to_end`, `GV.Props.C10cbor.reassemble_id_cbor`): for every cutting of
  a queue of well-formed CBOR messages into segment payloads the protocol read loop hands
  over exactly the queue.

Here: ANY number of mini-protocols, each queueing ANY sequence of well-formed CBOR items
(each at most `maxReadBufferSize` bytes); ANY batching of each queue by the send loop into
segments (or, more generally, any cutting into payloads of 1..65535 bytes); ANY timestamps;
ANY interleaving of the protocols' segments on the wire (goroutines serialised by the send
mutex); ANY fragmentation of the resulting byte stream into read chunks. The receiving
side = `GV.Model.Muxer.run` (incremental header/payload reader, diffusion-mode check,
receiver lookup) followed, per receiver, by `GV.Model.Reassembly.readAll` with the real
CBOR item parser `GV.Cbor.wfItem`. Every registered protocol receives exactly the message
sequence its peer queued — same order, identical bytes — with no reassembly error, nothing
left in its buffer, and the connection ends at a clean segment boundary.
-/
namespace GV.Props.C10e2e
open GV.Model.Muxer GV.Proofs.Muxer
open GV.Model.Reassembly (readAll sendSegs batchOk maxReadBuffer)
open GV.Props.C09 (pidOf modeAllows delivery_intact newSegment_pid newSegment_eq_some)
open GV.Props.C10cbor (wfItem' IsCborItem reassemble_id_cbor)

/-- **The whole receiving side for receiver `k`.** The muxer consumes the read chunks
    (`run`: byte-incremental reader, mode check, receiver lookup); the payloads it delivers to
    `k`'s channel, in delivery order, are fed one by one to that protocol's read loop, which
    decodes CBOR items off the front of its buffer with the real well-formedness machine. -/
def receive (c : Cfg) (chunks : List Bytes) (k : Nat × Role) : GV.Model.Reassembly.RState :=
  readAll wfItem' (deliveredTo k (run c chunks).1)

theorem pidOf_lt (k : Nat × Role) (h : k.1 < 32768) : pidOf k < 65536 := by
  unfold pidOf
  split <;> omega

theorem forall_zip {α β : Type} {as : List α} {bs : List β} {P : α → β → Prop}
    (h : ∀ x ∈ as.zip bs, P x.1 x.2) :
    ∀ (i : Nat) (a : α) (b : β), as[i]? = some a → bs[i]? = some b → P a b :=
  fun _ a b ha hb => h (a, b) (List.mem_of_getElem? (List.getElem?_zip_eq_some.mpr ⟨ha, hb⟩))

/-- **End-to-end transport, general cutting.** `keys[i]` is the peer's receiver for the i-th
    sending protocol, `ls[i]` the segments it wrote: any timestamps, the receiver's wire id,
    payloads of 1..65535 bytes. `w` is ANY interleaving of the `ls[i]`, `chunks` ANY fragmentation
    of the wire bytes. Whatever queue `q` of CBOR items the payloads of `ls[i]` concatenate to
    (ANY cutting — message boundaries and segment boundaries are unrelated), receiver `keys[i]`
    is handed exactly `q`; what the other protocols' payloads carry does not matter. -/
theorem e2e_transport (c : Cfg) (keys : List (Nat × Role)) (ls : List (List Seg)) (w : List Seg)
    (chunks : List Bytes)
    (hlen : ls.length = keys.length)
    (hnd : keys.Nodup)
    (hid : ∀ k ∈ keys, k.1 < 32768)
    (hreg : ∀ k ∈ keys, hasKey c.regs k.1 k.2 = true ∧ modeAllows c.mode k.2)
    (hseg : ∀ (i : Nat) (l : List Seg) (k : Nat × Role), ls[i]? = some l → keys[i]? = some k →
      ∀ s ∈ l, s.ts < 4294967296 ∧ s.pid = pidOf k ∧
               0 < s.payload.length ∧ s.payload.length ≤ 65535)
    (hi : Interleaving ls w)
    (hc : chunks.flatten = w.flatMap encSeg) :
    (run c chunks).2 = End.eofHeader ∧
    ∀ (i : Nat) (l : List Seg) (k : Nat × Role) (q : List Bytes),
      ls[i]? = some l → keys[i]? = some k →
      (∀ m ∈ q, IsCborItem m ∧ m.length ≤ maxReadBuffer) →
      (l.map (·.payload)).flatten = q.flatten →
      (receive c chunks k).msgs = q ∧ (receive c chunks k).err = none ∧
      (receive c chunks k).buf = [] := by
  -- the C09 half
  have hmux := delivery_intact c keys ls w chunks hlen hnd hid hreg (fun i l k hl hk s hs => by
    obtain ⟨hts, hpid, hpos, hmax⟩ := hseg i l k hl hk s hs
    exact ⟨⟨hts, hpid ▸ pidOf_lt k (hid k (List.mem_of_getElem? hk)), hpos, hmax⟩, hpid⟩) hi hc
  refine ⟨hmux.1, fun i l k q hl hk hq hcut => ?_⟩
  -- the C10 half, on exactly what the muxer delivered
  unfold receive
  rw [hmux.2 i l k hl hk]
  exact reassemble_id_cbor q _ (fun m hm => (hq m hm).1) (fun m hm => (hq m hm).2) hcut

/-- What one sending protocol puts on the wire for its batches `bs` towards the peer's
    receiver `k`: the send loop's payloads (`sendSegs`: each batch buffer cut into 65535-byte
    pieces), each wrapped by `NewSegment` (protocol number `k.1`, response flag set exactly when
    the peer's receiver is the initiator side) with some 32-bit timestamp. -/
def SentBy (k : Nat × Role) (bs : List (List Bytes)) (l : List Seg) : Prop :=
  l.map (·.payload) = sendSegs bs ∧
  ∀ s ∈ l, ∃ ts, ts < 4294967296 ∧
    newSegment ts k.1 s.payload (decide (k.2 = Role.initiator)) = some s

theorem sentBy_seg (k : Nat × Role) (hk : k.1 < 32768) (bs : List (List Bytes)) (l : List Seg)
    (h : SentBy k bs l) :
    ∀ s ∈ l, s.ts < 4294967296 ∧ s.pid = pidOf k ∧
             0 < s.payload.length ∧ s.payload.length ≤ 65535 := by
  intro s hs
  obtain ⟨ts, hts, hns⟩ := h.2 s hs
  have hb := (GV.Props.C10.segments_ok bs).1 s.payload (by rw [← h.1]; exact List.mem_map_of_mem hs)
  refine ⟨?_, newSegment_pid hk hns, hb⟩
  rw [(newSegment_eq_some.mp hns).2]
  exact hts

/-- **End-to-end transport, send loop to receive queue.** Every `ls[i]` is what `sendLoop` +
    `NewSegment` produce for some batches; `w` ANY interleaving; `chunks` ANY fragmentation.
    Whatever grouping `bs` of a queue of CBOR items into batches by `readSendQueueLoop` (several
    messages in one segment, one message over many segments, any timing) `ls[i]` was sent for,
    receiver `keys[i]`'s read loop hands over exactly the queue `bs.flatten`, no error. -/
theorem e2e_transport_sendLoop (c : Cfg) (keys : List (Nat × Role)) (ls : List (List Seg))
    (w : List Seg) (chunks : List Bytes)
    (hlen : ls.length = keys.length)
    (hnd : keys.Nodup)
    (hid : ∀ k ∈ keys, k.1 < 32768)
    (hreg : ∀ k ∈ keys, hasKey c.regs k.1 k.2 = true ∧ modeAllows c.mode k.2)
    (hsent : ∀ (i : Nat) (l : List Seg) (k : Nat × Role), ls[i]? = some l → keys[i]? = some k →
      ∃ bs, SentBy k bs l)
    (hi : Interleaving ls w)
    (hc : chunks.flatten = w.flatMap encSeg) :
    (run c chunks).2 = End.eofHeader ∧
    ∀ (i : Nat) (l : List Seg) (k : Nat × Role) (bs : List (List Bytes)),
      ls[i]? = some l → keys[i]? = some k → SentBy k bs l →
      (∀ m ∈ bs.flatten, IsCborItem m ∧ m.length ≤ maxReadBuffer) →
      (receive c chunks k).msgs = bs.flatten ∧ (receive c chunks k).err = none ∧
      (receive c chunks k).buf = [] := by
  have h := e2e_transport c keys ls w chunks hlen hnd hid hreg (fun i l k hl hk => by
    obtain ⟨bs, hs⟩ := hsent i l k hl hk
    exact sentBy_seg k (hid k (List.mem_of_getElem? hk)) bs l hs) hi hc
  exact ⟨h.1, fun i l k bs hl hk hs hq => h.2 i l k bs.flatten hl hk hq
    (hs.1 ▸ (GV.Props.C10.segments_ok bs).2)⟩

/-- Single protocol (no interleaving): one sender, its segments on the wire in order. -/
theorem e2e_single (c : Cfg) (k : Nat × Role) (bs : List (List Bytes)) (l : List Seg)
    (chunks : List Bytes)
    (hid : k.1 < 32768) (hreg : hasKey c.regs k.1 k.2 = true) (hmode : modeAllows c.mode k.2)
    (hmsg : ∀ m ∈ bs.flatten, IsCborItem m ∧ m.length ≤ maxReadBuffer)
    (hsent : SentBy k bs l)
    (hc : chunks.flatten = l.flatMap encSeg) :
    (run c chunks).2 = End.eofHeader ∧
    (receive c chunks k).msgs = bs.flatten ∧ (receive c chunks k).err = none ∧
    (receive c chunks k).buf = [] := by
  have hint : ∀ (l : List Seg), Interleaving [l] l := by
    intro l
    induction l with
    | nil => exact Interleaving.done _ (by simp)
    | cons a t ih => exact Interleaving.pick [a :: t] 0 a t t rfl (by simpa using ih)
  have h := e2e_transport_sendLoop c [k] [l] l chunks rfl (by simp)
    (List.forall_mem_singleton.mpr hid) (List.forall_mem_singleton.mpr ⟨hreg, hmode⟩)
    (forall_zip (by simpa using ⟨bs, hsent⟩))
    (hint l) hc
  exact ⟨h.1, h.2 0 l k bs rfl rfl hsent hmsg⟩

/-! ### Non-vacuity -/

namespace Ex

/-- Diffusion mode "both"; receivers: protocol 2 responder side, protocol 3 initiator side. -/
def cfg : Cfg := ⟨3, [(2, [.responder]), (3, [.initiator])]⟩
def keys : List (Nat × Role) := [(2, .responder), (3, .initiator)]

/-- Protocol 2 queues `[1, 2]` and `[_ 1(non-minimal)]`; protocol 3 queues `{1: h'00'}`. -/
def queues : List (List Bytes) :=
  [[[0x82, 0x01, 0x02], [0x9f, 0x18, 0x01, 0xff]], [[0xa1, 0x01, 0x41, 0x00]]]

/-- Cuttings unrelated to the message boundaries: 2+3+2 bytes and 2+2 bytes. -/
def ls : List (List Seg) :=
  [[⟨0, 2, [0x82, 0x01]⟩, ⟨2, 2, [0x02, 0x9f, 0x18]⟩, ⟨4, 2, [0x01, 0xff]⟩],
   [⟨1, 32771, [0xa1, 0x01]⟩, ⟨3, 32771, [0x41, 0x00]⟩]]

/-- The two protocols alternate on the wire. -/
def w : List Seg :=
  [⟨0, 2, [0x82, 0x01]⟩, ⟨1, 32771, [0xa1, 0x01]⟩, ⟨2, 2, [0x02, 0x9f, 0x18]⟩,
   ⟨3, 32771, [0x41, 0x00]⟩, ⟨4, 2, [0x01, 0xff]⟩]

/-- Reads cut inside headers, between header and payload, inside payloads. -/
def chunks : List Bytes :=
  [[0, 0, 0], [0, 0, 2, 0, 2, 0x82], [0x01, 0, 0, 0, 1, 0x80, 3, 0, 2, 0xa1, 0x01, 0, 0],
   [0, 2, 0, 2, 0, 3, 0x02, 0x9f, 0x18, 0, 0, 0, 3, 0x80],
   [3, 0, 2, 0x41, 0x00, 0, 0, 0, 4, 0, 2, 0, 2, 0x01], [0xff]]

theorem inter : Interleaving ls w := by
  unfold ls w
  refine Interleaving.pick _ 0 _ _ _ rfl ?_
  refine Interleaving.pick _ 1 _ _ _ rfl ?_
  refine Interleaving.pick _ 0 _ _ _ rfl ?_
  refine Interleaving.pick _ 1 _ _ _ rfl ?_
  refine Interleaving.pick _ 0 _ _ _ rfl ?_
  exact Interleaving.done _ (by simp)

theorem wire : chunks.flatten = w.flatMap encSeg := by decide

/-- What the muxer half does on this input (computed): five deliveries, clean end. -/
example : run cfg chunks =
    ([((2, .responder), [0x82, 0x01]), ((3, .initiator), [0xa1, 0x01]),
      ((2, .responder), [0x02, 0x9f, 0x18]), ((3, .initiator), [0x41, 0x00]),
      ((2, .responder), [0x01, 0xff])], End.eofHeader) := by decide

/-- All hypotheses of `e2e_transport` hold for this instance, hence its conclusion: each
    receiver gets its peer's queue although no segment boundary is a message boundary. -/
theorem instance_holds :
    (run cfg chunks).2 = End.eofHeader ∧
    (receive cfg chunks (2, .responder)).msgs = [[0x82, 0x01, 0x02], [0x9f, 0x18, 0x01, 0xff]] ∧
    (receive cfg chunks (2, .responder)).err = none ∧
    (receive cfg chunks (3, .initiator)).msgs = [[0xa1, 0x01, 0x41, 0x00]] ∧
    (receive cfg chunks (3, .initiator)).err = none := by
  have h := e2e_transport cfg keys ls w chunks rfl (by decide) (by decide)
    (by unfold modeAllows; decide)
    (forall_zip (by decide))
    inter wire
  have h0 := h.2 0 _ (2, .responder) [[0x82, 0x01, 0x02], [0x9f, 0x18, 0x01, 0xff]] rfl rfl
    (by unfold IsCborItem; decide) (by decide)
  have h1 := h.2 1 _ (3, .initiator) [[0xa1, 0x01, 0x41, 0x00]] rfl rfl
    (by unfold IsCborItem; decide) (by decide)
  exact ⟨h.1, h0.1, h0.2.1, h1.1, h1.2.1⟩

/-- Send-loop instance: protocol 2 sends its two messages as one batch (one 7-byte segment),
    protocol 3 sends one batch; both batches are ones `readSendQueueLoop` can form, the
    segments are what `NewSegment` returns. -/
def batches : List (List (List Bytes)) := queues.map fun q => [q]

def ls' : List (List Seg) :=
  [[⟨7, 2, [0x82, 0x01, 0x02, 0x9f, 0x18, 0x01, 0xff]⟩], [⟨9, 32771, [0xa1, 0x01, 0x41, 0x00]⟩]]

example : (∀ bs ∈ batches, ∀ b ∈ bs, batchOk b = true) ∧
    ls'.map (fun l => l.map (·.payload)) = batches.map sendSegs ∧
    newSegment 7 2 [0x82, 0x01, 0x02, 0x9f, 0x18, 0x01, 0xff] false = ls'[0]?.bind (·[0]?) ∧
    newSegment 9 3 [0xa1, 0x01, 0x41, 0x00] true = ls'[1]?.bind (·[0]?) := by decide

/-- Protocol 3's segment goes out first; every read returns a single byte. -/
def w' : List Seg :=
  [⟨9, 32771, [0xa1, 0x01, 0x41, 0x00]⟩, ⟨7, 2, [0x82, 0x01, 0x02, 0x9f, 0x18, 0x01, 0xff]⟩]
def chunks' : List Bytes := (w'.flatMap encSeg).map fun b => [b]

theorem sent0 : SentBy (2, .responder) [[[0x82, 0x01, 0x02], [0x9f, 0x18, 0x01, 0xff]]]
    [⟨7, 2, [0x82, 0x01, 0x02, 0x9f, 0x18, 0x01, 0xff]⟩] :=
  ⟨by decide, List.forall_mem_singleton.mpr ⟨7, by decide, by decide⟩⟩

theorem sent1 : SentBy (3, .initiator) [[[0xa1, 0x01, 0x41, 0x00]]]
    [⟨9, 32771, [0xa1, 0x01, 0x41, 0x00]⟩] :=
  ⟨by decide, List.forall_mem_singleton.mpr ⟨9, by decide, by decide⟩⟩

/-- All hypotheses of `e2e_transport_sendLoop` hold for this instance (two messages packed
    into one segment; byte-at-a-time reads), hence its conclusion. -/
theorem instance_sendLoop :
    (run cfg chunks').2 = End.eofHeader ∧
    (receive cfg chunks' (2, .responder)).msgs = [[0x82, 0x01, 0x02], [0x9f, 0x18, 0x01, 0xff]] ∧
    (receive cfg chunks' (2, .responder)).err = none ∧
    (receive cfg chunks' (3, .initiator)).msgs = [[0xa1, 0x01, 0x41, 0x00]] ∧
    (receive cfg chunks' (3, .initiator)).err = none := by
  have h := e2e_transport_sendLoop cfg keys ls' w' chunks' rfl (by decide) (by decide)
    (by unfold modeAllows; decide)
    (forall_zip (by simpa [ls', keys] using ⟨⟨_, sent0⟩, ⟨_, sent1⟩⟩))
    (by
      unfold ls' w'
      refine Interleaving.pick _ 1 _ _ _ rfl ?_
      refine Interleaving.pick _ 0 _ _ _ rfl ?_
      exact Interleaving.done _ (by simp))
    (by
      unfold chunks'
      rw [← List.flatMap_def, List.flatMap_singleton'])
  have h0 := h.2 0 _ (2, .responder) _ rfl rfl sent0 (by unfold IsCborItem; decide)
  have h1 := h.2 1 _ (3, .initiator) _ rfl rfl sent1 (by unfold IsCborItem; decide)
  exact ⟨h.1, h0.1, h0.2.1, h1.1, h1.2.1⟩

end Ex

end GV.Props.C10e2e
