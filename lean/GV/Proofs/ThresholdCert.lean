import GV.Model.ThresholdCert
import Mathlib.Analysis.SpecialFunctions.Pow.Real
import Mathlib.Analysis.SpecialFunctions.Exponential
/-!
Soundness of the rational certificate `GV.Model.ThresholdCert.check`.
-/
namespace GV.Proofs.ThresholdCert
open GV.Model.ThresholdCert

theorem fact_eq (n : ℕ) : fact n = n.factorial := by
  induction n with
  | zero => rfl
  | succ k ih => simp [fact, Nat.factorial_succ, ih]

theorem expSum_cast (t : ℚ) (N : ℕ) :
    ((expSum t N : ℚ) : ℝ) = ∑ i ∈ Finset.range N, (t : ℝ) ^ i / (i.factorial : ℝ) := by
  induction N with
  | zero => simp [expSum]
  | succ k ih =>
    rw [Finset.sum_range_succ, ← ih]
    simp [expSum, fact_eq]

theorem expLo_le_exp (t : ℚ) (h0 : (0:ℝ) ≤ t) (N : ℕ) : ((expLo t N : ℚ) : ℝ) ≤ Real.exp (t : ℝ) := by
  unfold expLo
  rw [expSum_cast]
  exact Real.sum_le_exp_of_nonneg h0 N

theorem exp_le_expHi (t : ℚ) (h0 : (0:ℝ) ≤ t) (h1 : (t:ℝ) ≤ 1) (N : ℕ) (hN : 0 < N) :
    Real.exp (t : ℝ) ≤ ((expHi t N : ℚ) : ℝ) := by
  have := Real.exp_bound' h0 h1 hN
  unfold expHi
  push_cast
  rw [expSum_cast, fact_eq]
  exact this

theorem log_mem_of_check {l u : ℚ} {q : ℝ} {N : ℕ} (hq : 0 < q) (hN : 0 < N) (l0 : (0:ℝ) ≤ l)
    (l1 : (l:ℝ) ≤ 1) (u0 : (0:ℝ) ≤ u)
    (hl : ((expHi l N : ℚ) : ℝ) ≤ q) (hu : q ≤ ((expLo u N : ℚ) : ℝ)) :
    (l : ℝ) ≤ Real.log q ∧ Real.log q ≤ (u : ℝ) :=
  ⟨(Real.le_log_iff_exp_le hq).mpr (le_trans (exp_le_expHi l l0 l1 N hN) hl),
    (Real.log_le_iff_le_exp hq).mpr (le_trans hu (expLo_le_exp u u0 N))⟩

theorem floor_of_enclosure {U T : ℕ} {x lo hi : ℝ} (h1 : lo ≤ x) (h2 : x ≤ hi)
    (hT1 : (T : ℝ) ≤ U * (1 - hi)) (hT2 : (U : ℝ) * (1 - lo) < T + 1) :
    (T : ℤ) = ⌊(U : ℝ) * (1 - x)⌋ := by
  have hU : (0:ℝ) ≤ U := Nat.cast_nonneg U
  have a := mul_le_mul_of_nonneg_left h1 hU
  have b := mul_le_mul_of_nonneg_left h2 hU
  symm; rw [Int.floor_eq_iff]; push_cast
  constructor <;> linarith

/-- the reduced exponent `σ·(e·ln 2 + ln r) − j·ln 2` of `check`, with `x`, `z` for the two `ln 2`, `y` for `ln r` -/
theorem reduced_exponent_mono {σ e j : ℝ} (hσ : 0 ≤ σ) (he : 0 ≤ e) (hj : 0 ≤ j)
    ⦃x x' y y' z z' : ℝ⦄ (hx : x ≤ x') (hy : y ≤ y') (hz : z' ≤ z) :
    σ * (e * x + y) - j * z ≤ σ * (e * x' + y') - j * z' :=
  sub_le_sub (mul_le_mul_of_nonneg_left (add_le_add (mul_le_mul_of_nonneg_left hx he) hy) hσ)
    (mul_le_mul_of_nonneg_left hz hj)

/-- `(a/b)^σ = 2^(−j)·exp(−t)`, `t = σ·ln(b/a) − j·ln 2`, where `b/a = 2^e·r` -/
theorem rpow_eq_exp_reduced {a b r : ℝ} (ha : 0 < a) (hb : 0 < b) (hr : 0 < r) (e j : ℕ) (σ : ℝ)
    (hba : b / a = 2 ^ e * r) :
    (a / b) ^ σ = 1 / (Real.exp (σ * (e * Real.log 2 + Real.log r) - j * Real.log 2) * 2 ^ j) := by
  have h2e : (0:ℝ) < 2 ^ e := by positivity
  have h2j : (0:ℝ) < 2 ^ j := by positivity
  have hlog : Real.log (a / b) = -(e * Real.log 2 + Real.log r) := by
    rw [← inv_div, Real.log_inv, hba, Real.log_mul h2e.ne' hr.ne', Real.log_pow]
  rw [Real.rpow_def_of_pos (div_pos ha hb), hlog, one_div, ← Real.exp_log h2j, ← Real.exp_add,
    ← Real.exp_neg, Real.log_pow]
  congr 1; ring

theorem check_sound (a b n m U T : ℕ) (c : Cert) (h : check a b n m U T c = true) :
    (T : ℤ) = ⌊(U : ℝ) * (1 - ((a : ℝ) / b) ^ ((n : ℝ) / m))⌋ := by
  simp only [check, Bool.and_eq_true, decide_eq_true_eq, and_assoc] at h
  -- the rational enclosure of the reduced exponent, as `check` computes it
  set tlo : ℚ := (n : ℚ) / m * (c.e * c.l2lo + c.rlo) - c.j * c.l2hi with tlo_def
  set thi : ℚ := (n : ℚ) / m * (c.e * c.l2hi + c.rhi) - c.j * c.l2lo with thi_def
  simp only [← Rat.cast_le (K := ℝ), ← Rat.cast_lt (K := ℝ)] at h
  push_cast at h
  obtain ⟨ha, hb, hm, hN, l2lo0, l2lo1, l2hi0, l2loC, l2hiC, rlo0, rlo1, rhi0, rloC, rhiC, tlo0, thi0, thi1,
    Elo0, hT1, hT2⟩ := h
  have haR : (0:ℝ) < a := by exact_mod_cast ha
  have hbR : (0:ℝ) < b := by exact_mod_cast hb
  have h2e : (0:ℝ) < (2:ℝ) ^ c.e := by positivity
  have h2j : (0:ℝ) < (2:ℝ) ^ c.j := by positivity
  let R : ℝ := (b:ℝ) / ((a:ℝ) * 2 ^ c.e)
  have hRpos : 0 < R := div_pos hbR (mul_pos haR h2e)
  -- the claimed bounds `l2lo ≤ ln 2 ≤ l2hi` and `rlo ≤ ln R ≤ rhi`, checked through exp
  obtain ⟨L2lo, L2hi⟩ := log_mem_of_check (q := 2) two_pos hN l2lo0 l2lo1 l2hi0 l2loC l2hiC
  obtain ⟨Rlo, Rhi⟩ := log_mem_of_check hRpos hN rlo0 rlo1 rhi0 rloC rhiC
  let t : ℝ := (n:ℝ) / m * (c.e * Real.log 2 + Real.log R) - c.j * Real.log 2
  have mono := reduced_exponent_mono (div_nonneg n.cast_nonneg m.cast_nonneg : (0:ℝ) ≤ n / m)
    c.e.cast_nonneg c.j.cast_nonneg
  obtain ⟨htlo, hthi⟩ : (tlo : ℝ) ≤ t ∧ t ≤ (thi : ℝ) := by
    rw [tlo_def, thi_def]; push_cast
    exact ⟨mono L2lo Rlo L2hi, mono L2hi Rhi L2lo⟩
  have hElo : ((expLo tlo c.N : ℚ) : ℝ) ≤ Real.exp t :=
    le_trans (expLo_le_exp tlo tlo0 c.N) (Real.exp_le_exp.mpr htlo)
  have hEhi : Real.exp t ≤ ((expHi thi c.N : ℚ) : ℝ) :=
    le_trans (Real.exp_le_exp.mpr hthi) (exp_le_expHi thi thi0 thi1 c.N hN)
  rw [rpow_eq_exp_reduced haR hbR hRpos c.e c.j _ (by simp only [R]; field_simp)]
  exact floor_of_enclosure
    (one_div_le_one_div_of_le (mul_pos (Real.exp_pos _) h2j) (mul_le_mul_of_nonneg_right hEhi h2j.le))
    (one_div_le_one_div_of_le (mul_pos Elo0 h2j) (mul_le_mul_of_nonneg_right hElo h2j.le)) hT1 hT2

end GV.Proofs.ThresholdCert
