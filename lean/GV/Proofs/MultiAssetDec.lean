import GV.Proofs.MultiAssetEnc
import GV.Proofs.CborLite
/-
  C06: decoding an encoding.
  `decodeMA (encodeMA a)` is the pruned canonical form of `a`, for every value whose parts fit
  CBOR's 64-bit length fields.
-/
namespace GV.Proofs.MultiAssetDec
open GV.Model.MultiAsset GV.Lib.AssocMap GV.Lib.CborLite GV.Proofs.MultiAsset GV.Proofs.MultiAssetEnc
open GV.Proofs.CborLite (two64 readHead_head readBytes_enc fromBE_natBytes fixN_self)

/-- the bignum magnitude fits a CBOR byte string (length < 2^64: a physical limit) -/
def AmtOK : Amt → Prop
  | none => True
  | some i => (natBytes i.toNat).length < two64 ∧ (natBytes (-1 - i).toNat).length < two64

theorem readHead_c2 (x : Bytes) : readHead (0xc2 :: x) = some (6, .val 2, x) := rfl
theorem readHead_c3 (x : Bytes) : readHead (0xc3 :: x) = some (6, .val 3, x) := rfl
theorem readHead_f6 (x : Bytes) : readHead (0xf6 :: x) = some (7, .val 22, x) := rfl

theorem readAmt_enc (a : Amt) (h : AmtOK a) (rest : Bytes) :
    readAmt (encAmt a ++ rest) = some (a, rest) := by
  cases a with
  | none => rfl
  | some i =>
    obtain ⟨h1, h2⟩ := h
    unfold encAmt readAmt
    by_cases hi : 0 ≤ i
    · by_cases hs : i.toNat < 18446744073709551616
      · simp [hi, hs, readHead_head 0 _ (by decide) hs, Int.toNat_of_nonneg hi]
      · simp [hi, hs, readHead_c2, readBytes_enc _ h1, fromBE_natBytes, Int.toNat_of_nonneg hi]
    · -- the negative forms carry `-1 - i`; reading gives back `-1 - (-1 - i) = i`
      have hback : -1 - ((-1 - i).toNat : Int) = i := by omega
      by_cases hs : (-1 - i).toNat < 18446744073709551616
      · simpa [hi, hs, readHead_head 1 _ (by decide) hs] using hback
      · simpa [hi, hs, readHead_c3, readBytes_enc _ h2, fromBE_natBytes] using hback

/-- `cv`: what the value reader returns for what was written (`readAmt` the amount itself,
    `readMap readAmt` the sorted inner map). -/
theorem readEntriesN_enc {ν : Type} (rd : Bytes → Option (ν × Bytes)) (encV : ν → Bytes) (cv : ν → ν)
    (P : ν → Prop) (hrd : ∀ v, P v → ∀ rest, rd (encV v ++ rest) = some (cv v, rest))
    (es : List (Bytes × ν)) (rest : Bytes) (h : ∀ e ∈ es, e.1.length < two64 ∧ P e.2) :
    readEntriesN rd es.length ((es.map (fun e => encBytes e.1 ++ encV e.2)).flatten ++ rest)
      = some (es.map (fun e => (e.1, cv e.2)), rest) := by
  induction es with
  | nil => rfl
  | cons e t ih =>
    have he := h e List.mem_cons_self
    simp only [List.map_cons, List.flatten_cons, List.length_cons, List.append_assoc, readEntriesN]
    rw [readBytes_enc _ he.1]
    simp only
    rw [hrd _ he.2]
    simp only
    rw [ih fun x hx => h x (List.mem_cons_of_mem _ hx)]

/-- One level of the encoding: `encInner` over `encAmt`, or `encodeMA` over `encInner`. -/
theorem readMap_enc {ν : Type} (rd : Bytes → Option (ν × Bytes)) (encV : ν → Bytes) (cv : ν → ν)
    (P : ν → Prop) (hrd : ∀ v, P v → ∀ rest, rd (encV v ++ rest) = some (cv v, rest))
    (m : List (Bytes × ν)) (hl : m.length < two64) (rest : Bytes)
    (h : ∀ e ∈ m, e.1.length < two64 ∧ P e.2) :
    readMap rd (head 5 m.length ++
        ((sortKeys m).map (fun e => encBytes e.1 ++ encV e.2)).flatten ++ rest)
      = some ((sortKeys m).map (fun e => (e.1, cv e.2)), rest) := by
  unfold readMap
  rw [List.append_assoc, readHead_head 5 _ (by decide) hl]
  simp only
  rw [← sortKeys_length m]
  exact readEntriesN_enc rd encV cv P hrd _ rest fun e he => h e (List.mem_mergeSort.mp he)

def InnerOK (i : Inner) : Prop := i.length < two64 ∧ ∀ e ∈ i, e.1.length < two64 ∧ AmtOK e.2

theorem readInner_enc (i : Inner) (h : InnerOK i) (rest : Bytes) :
    readMap readAmt (encInner i ++ rest) = some (sortKeys i, rest) := by
  have := readMap_enc readAmt encAmt id AmtOK readAmt_enc i h.1 rest h.2
  simpa [encInner] using this

/-- sizes fit CBOR's 64-bit length fields; policy ids are 28 bytes -/
def MAOK (m : MA) : Prop := m.length < two64 ∧ ∀ e ∈ m, e.1.length = 28 ∧ InnerOK e.2

/-- canonical form: both levels sorted by encoded key -/
def canon (m : MA) : MA := (sortKeys m).map fun e => (e.1, sortKeys e.2)

theorem readOuter_enc (m : MA) (h : MAOK m) :
    readMap (readMap readAmt) (encodeMA m) = some (canon m, []) := by
  have := readMap_enc (readMap readAmt) encInner sortKeys InnerOK readInner_enc m h.1 []
    fun e he => ⟨by rw [(h.2 e he).1]; decide, (h.2 e he).2⟩
  rwa [List.append_nil] at this

theorem foldl_insert_nodup {ν : Type} : ∀ (es acc : List (Bytes × ν)), NodupKeys (acc ++ es) →
    es.foldl (fun m e => GV.Lib.AssocMap.insert e.1 e.2 m) acc = acc ++ es
  | [], acc, _ => (List.append_nil acc).symm
  | e :: t, acc, h => by
    have h' : NodupKeys ((acc ++ [e]) ++ t) := by rwa [List.append_assoc]
    have hk : e.1 ∉ keys acc := fun hm => by
      unfold NodupKeys at h
      rw [keys_append, List.nodup_append] at h
      exact h.2.2 _ hm _ List.mem_cons_self rfl
    rw [List.foldl_cons, insert_of_not_mem _ _ _ hk, foldl_insert_nodup t _ h', List.append_assoc]
    rfl

theorem fromEntries_nodup {ν : Type} (es : List (Bytes × ν)) (h : NodupKeys es) : fromEntries es = es :=
  foldl_insert_nodup es [] h

theorem hasDupKeys_of_nodupKeys {ν : Type} {m : List (Bytes × ν)} (h : NodupKeys m) :
    hasDupKeys m = false := by
  unfold hasDupKeys; simpa [NodupKeys] using h

theorem nodupKeys_canon {m : MA} (h : NodupKeys m) : NodupKeys (canon m) :=
  nodupKeys_mapVal sortKeys (nodupKeys_sortKeys h)

theorem wf_canon {m : MA} (h : WF m) : WF (canon m) := by
  refine ⟨nodupKeys_canon h.1, ?_⟩
  intro e he
  unfold canon at he
  obtain ⟨e0, he0, rfl⟩ := List.mem_map.mp he
  exact nodupKeys_sortKeys (h.2 e0 (List.mem_mergeSort.mp he0))

theorem decode_encode_eq (a : MA) (ha : WF a) (hok : MAOK a) :
    decodeMA (encodeMA a) = some { value := normalize (canon a), dup := false } := by
  unfold decodeMA
  rw [readOuter_enc a hok]
  simp only
  have hwf := wf_canon ha
  have hfix : (canon a).map (fun e => (fix28 e.1, e.2)) = canon a := by
    refine (List.map_congr_left fun e he => ?_).trans (List.map_id _)
    obtain ⟨e0, he0, rfl⟩ := List.mem_map.mp he
    simp [fix28, fixN_self (hok.2 e0 (List.mem_mergeSort.mp he0)).1]
  have hin : (canon a).map (fun e => (e.1, fromEntries e.2)) = canon a :=
    (List.map_congr_left fun e he => by simp [fromEntries_nodup e.2 (hwf.2 e he)]).trans (List.map_id _)
  have hd : (canon a).any (fun e => hasDupKeys e.2) = false :=
    List.any_eq_false.mpr fun e he => by simp [hasDupKeys_of_nodupKeys (hwf.2 e he)]
  rw [hfix, hasDupKeys_of_nodupKeys hwf.1, hd, hin, fromEntries_nodup _ hwf.1]
  rfl

theorem lookup_sortKeys {ν : Type} {m : List (Bytes × ν)} (h : NodupKeys m) (k : Bytes) :
    lookup k (sortKeys m) = lookup k m :=
  lookup_of_perm (nodupKeys_sortKeys h) (List.mergeSort_perm m keyLE) k

theorem qty_canon {a : MA} (ha : WF a) (p n : Bytes) : qty (canon a) p n = qty a p n := by
  unfold qty asset canon
  rw [lookup_mapVal sortKeys (sortKeys a) p, lookup_sortKeys ha.1]
  cases hl : lookup p a with
  | none => rfl
  | some i =>
    simp only [Option.map_some]
    rw [lookup_sortKeys (ha.2 (p, i) (mem_of_lookup hl))]

end GV.Proofs.MultiAssetDec
