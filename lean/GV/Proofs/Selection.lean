/-!
Generic theory of three-way comparison functions (`cmp a b : Int`, positive =
`a` preferred) used by C41: total preorders on a domain `P`, lexicographic
combination, comparison through a key, and the invariant of the loop of
`selectPreferred` (the kept element is maximal so far).
-/
namespace GV.Proofs.Selection

/-- `cmp` is a consistent preference order (total preorder) on the elements satisfying `P` -/
structure Pre {α : Type} (P : α → Prop) (cmp : α → α → Int) : Prop where
  -- skew-symmetry of the function `cmp`; distinct elements may tie (`cmp a b = 0`)
  antisymm : ∀ a b, P a → P b → cmp b a = - cmp a b
  trans : ∀ a b c, P a → P b → P c → 0 ≤ cmp a b → 0 ≤ cmp b c → 0 ≤ cmp a c

variable {α : Type} {P : α → Prop} {cmp : α → α → Int}

theorem Pre.refl (h : Pre P cmp) (a : α) (ha : P a) : 0 ≤ cmp a a := by
  have := h.antisymm a a ha ha; omega

theorem Pre.trans_strict (h : Pre P cmp) (a b c : α) (ha : P a) (hb : P b) (hc : P c)
    (h1 : 0 ≤ cmp a b) (h2 : 0 ≤ cmp b c) (hs : 0 < cmp a b ∨ 0 < cmp b c) : 0 < cmp a c := by
  have := h.antisymm a c ha hc
  have := h.antisymm a b ha hb
  have := h.antisymm b c hb hc
  by_cases hx : 0 < cmp a c
  · exact hx
  · -- otherwise `c ≥ a`, and going round the cycle makes both steps ties
    have hba : 0 ≤ cmp b a := h.trans b c a hb hc ha h2 (by omega)
    have hcb : 0 ≤ cmp c b := h.trans c a b hc ha hb (by omega) h1
    omega

theorem Pre.mono {Q : α → Prop} (h : Pre P cmp) (hq : ∀ a, Q a → P a) : Pre Q cmp :=
  ⟨fun a b ha hb => h.antisymm a b (hq a ha) (hq b hb),
   fun a b c ha hb hc => h.trans a b c (hq a ha) (hq b hb) (hq c hc)⟩

theorem Pre.congr {cmp' : α → α → Int} (h : Pre P cmp)
    (e : ∀ a b, P a → P b → cmp' a b = cmp a b) : Pre P cmp' :=
  ⟨fun a b ha hb => by rw [e b a hb ha, e a b ha hb]; exact h.antisymm a b ha hb,
   fun a b c ha hb hc h1 h2 => by
     rw [e a b ha hb] at h1; rw [e b c hb hc] at h2; rw [e a c ha hc]
     exact h.trans a b c ha hb hc h1 h2⟩

/-- lexicographic combination: `c1` decides, `c2` breaks ties -/
def lexC (c1 c2 : α → α → Int) (a b : α) : Int := if c1 a b ≠ 0 then c1 a b else c2 a b

theorem lexC_of_ne {c1 c2 : α → α → Int} {a b : α} (h : c1 a b ≠ 0) : lexC c1 c2 a b = c1 a b :=
  if_pos h

theorem lexC_of_eq {c1 c2 : α → α → Int} {a b : α} (h : c1 a b = 0) : lexC c1 c2 a b = c2 a b :=
  if_neg (not_not_intro h)

theorem lexC_nonneg_left {c1 c2 : α → α → Int} {a b : α} (h : 0 ≤ lexC c1 c2 a b) : 0 ≤ c1 a b := by
  unfold lexC at h; split at h <;> omega

theorem Pre.lex {c1 c2 : α → α → Int} (h1 : Pre P c1) (h2 : Pre P c2) : Pre P (lexC c1 c2) where
  antisymm a b ha hb := by
    have e1 := h1.antisymm a b ha hb
    by_cases x : c1 a b = 0
    · rw [lexC_of_eq x, lexC_of_eq (by omega)]; exact h2.antisymm a b ha hb
    · rw [lexC_of_ne x, lexC_of_ne (by omega)]; exact e1
  trans a b c ha hb hc hab hbc := by
    have x : 0 ≤ c1 a b := lexC_nonneg_left hab
    have y : 0 ≤ c1 b c := lexC_nonneg_left hbc
    by_cases z : c1 a c = 0
    · -- the ends tie on `c1`, so neither step is strict and `c2` decides all three pairs
      have s := h1.trans_strict a b c ha hb hc x y
      rw [lexC_of_eq (show c1 a b = 0 by omega)] at hab
      rw [lexC_of_eq (show c1 b c = 0 by omega)] at hbc
      rw [lexC_of_eq z]
      exact h2.trans a b c ha hb hc hab hbc
    · rw [lexC_of_ne z]
      exact h1.trans a b c ha hb hc x y

theorem Pre.zero : Pre P (fun _ _ : α => (0 : Int)) :=
  ⟨fun _ _ _ _ => rfl, fun _ _ _ _ _ _ _ _ => Int.le_refl 0⟩

/-- comparison through a key into the integers (a linear order) -/
def cmpOn (f : α → Int) (a b : α) : Int := if f a > f b then 1 else if f b > f a then -1 else 0

theorem cmpOn_of_lt {f : α → Int} {a b : α} (h : f a < f b) : cmpOn f a b = -1 := by
  rw [cmpOn, if_neg (by omega), if_pos h]

theorem cmpOn_of_gt {f : α → Int} {a b : α} (h : f b < f a) : cmpOn f a b = 1 := by
  rw [cmpOn, if_pos h]

theorem cmpOn_of_eq {f : α → Int} {a b : α} (h : f a = f b) : cmpOn f a b = 0 := by
  rw [cmpOn, if_neg (by omega), if_neg (by omega)]

theorem cmpOn_nonneg {f : α → Int} {a b : α} : 0 ≤ cmpOn f a b ↔ f b ≤ f a := by
  rcases Int.lt_trichotomy (f a) (f b) with h | h | h
  · rw [cmpOn_of_lt h]; omega
  · rw [cmpOn_of_eq h]; omega
  · rw [cmpOn_of_gt h]; omega

theorem Pre.ofKey (f : α → Int) : Pre P (cmpOn f) where
  antisymm a b _ _ := by
    rcases Int.lt_trichotomy (f a) (f b) with h | h | h
    · rw [cmpOn_of_lt h, cmpOn_of_gt h]; rfl
    · rw [cmpOn_of_eq h, cmpOn_of_eq h.symm]; rfl
    · rw [cmpOn_of_gt h, cmpOn_of_lt h]
  trans _ _ _ _ _ _ h1 h2 :=
    cmpOn_nonneg.mpr (Int.le_trans (cmpOn_nonneg.mp h2) (cmpOn_nonneg.mp h1))

theorem cmpOn_range (f : α → Int) (a b : α) : cmpOn f a b = 1 ∨ cmpOn f a b = 0 ∨ cmpOn f a b = -1 := by
  rcases Int.lt_trichotomy (f a) (f b) with h | h | h
  · exact .inr (.inr (cmpOn_of_lt h))
  · exact .inr (.inl (cmpOn_of_eq h))
  · exact .inl (cmpOn_of_gt h)

/-- one level of a lexicographic comparison through a key, in the shape the Go code writes it -/
theorem lexC_cmpOn (f : α → Int) (c : α → α → Int) (a b : α) :
    lexC (cmpOn f) c a b = if f a ≠ f b then (if f a > f b then 1 else -1) else c a b := by
  rcases Int.lt_trichotomy (f a) (f b) with h | h | h
  · rw [lexC_of_ne (by rw [cmpOn_of_lt h]; omega), cmpOn_of_lt h, if_pos (by omega), if_neg (by omega)]
  · rw [lexC_of_eq (cmpOn_of_eq h), if_neg (by omega)]
  · rw [lexC_of_ne (by rw [cmpOn_of_gt h]; omega), cmpOn_of_gt h, if_pos (by omega), if_pos h]

theorem snoc_induction {motive : List α → Prop} (nil : motive [])
    (snoc : ∀ l a, motive l → motive (l ++ [a])) (l : List α) : motive l := by
  rw [← l.reverse_reverse]
  induction l.reverse with
  | nil => exact nil
  | cons a r ih => rw [List.reverse_cons]; exact snoc _ a ih

section loop
-- `step` is a variable known through its equation: the model has this step at two types
-- (`selStep cmp` on `Cand`, `genStep` on `Frag`), and both callers give `hstep` by `rfl`.
variable {step : Nat × Nat × α → α → Nat × Nat × α}
  (hstep : ∀ st c, step st c =
    if cmp c st.2.2 > 0 then (st.1 + 1, st.1, c) else (st.1 + 1, st.2.1, st.2.2))
include hstep

/-- `step` carries (next index, index of the best, the best) -/
theorem fold_indexed_maximal (h : Pre P cmp) (c : α) (cs : List α) (hl : ∀ x ∈ c :: cs, P x) :
    (cs.foldl step (1, 0, c)).1 = cs.length + 1 ∧
      (c :: cs)[(cs.foldl step (1, 0, c)).2.1]? = some (cs.foldl step (1, 0, c)).2.2 ∧
      ∀ x ∈ c :: cs, 0 ≤ cmp (cs.foldl step (1, 0, c)).2.2 x := by
  induction cs using snoc_induction with
  | nil => exact ⟨rfl, rfl, by simpa using h.refl c (hl c (List.mem_cons_self ..))⟩
  | snoc cs d ih =>
    rw [← List.cons_append, List.forall_mem_append, List.forall_mem_singleton] at hl
    obtain ⟨hl, hd⟩ := hl
    obtain ⟨hn, hi, hm⟩ := ih hl
    rw [List.foldl_append, List.foldl_cons, List.foldl_nil]
    generalize cs.foldl step (1, 0, c) = st at hn hi hm ⊢
    have hb : P st.2.2 := hl _ (List.mem_of_getElem? hi)
    have e := h.antisymm d st.2.2 hd hb
    rw [hstep, ← List.cons_append, List.forall_mem_append, List.forall_mem_singleton,
      List.length_append, hn]
    split
    · -- `d` replaces the best and by transitivity beats what the best did
      exact ⟨rfl, by simp, fun x hx => h.trans d st.2.2 x hd hb (hl x hx) (by omega) (hm x hx),
        h.refl d hd⟩
    · have hlt := (List.getElem?_eq_some_iff.mp hi).1
      have hbd : 0 ≤ cmp st.2.2 d := by omega
      exact ⟨rfl, by rw [List.getElem?_append_left hlt]; exact hi, hm, hbd⟩

end loop

end GV.Proofs.Selection
