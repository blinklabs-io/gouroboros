import GV.Model.OffsetsWit
import GV.Proofs.Offsets
/-!
  C07: the witness set. `extractWitnessComponentOffsets` visits exactly the key/value child spans
  of the witness map (`witnessComponents` = fold over them), and the walks it calls (datums,
  scripts, redeemers as an array of `[purpose, index, data, exunits]` or as a map
  `{[purpose, index]: [data, exunits]}`) report exactly the path-composed spans, for every header
  form of the arrays/maps involved.
-/
namespace GV.Model.OffsetsWit
open GV.Cbor GV.Model.Offsets

/-! ### the array item loop; datums -/

theorem itemsFrom_walk (data : Bytes) (count : Nat) (indef : Bool) :
    ∀ (cs : List (Nat × Nat)) (fuel p i : Nat),
      Contig p cs → (∀ s ∈ cs, wfItem (data.drop s.1) = .ok s.2) →
      cs.length < fuel →
      (indef = false → i + cs.length = count) →
      (indef = true → ∃ tl, data.drop (p + sumLens cs) = (0xff : UInt8) :: tl) →
      itemsFrom data count indef fuel p i = cs := by
  intro cs fuel p i hc hwf hf hdef hind
  have hw : Walk data count indef p i cs.length cs := ⟨hc, hwf, hdef, hind⟩
  clear hc hwf hdef hind
  induction cs generalizing fuel p i with
  | nil =>
    obtain ⟨fuel, rfl⟩ := Nat.exists_eq_succ_of_ne_zero (by omega : fuel ≠ 0)
    simp only [itemsFrom, hw.stop]
  | cons s rest ih =>
    obtain ⟨fuel, rfl⟩ := Nat.exists_eq_succ_of_ne_zero (by omega : fuel ≠ 0)
    obtain ⟨rfl, hs, hw1⟩ := hw.skip
    simp only [itemsFrom, hw.go, skipItem_of_wf hs,
      ih fuel _ _ (by simp only [List.length_cons] at hf; omega) hw1.round]

theorem datumEntries_exact {data : Bytes} {hl : Nat} {cs : List (Nat × Nat)} (base : Nat)
    (acc : List (Bytes × Nat × Nat)) (hA : ArrAt data hl cs) (hlen : data.length ≤ 2147483647) :
    datumEntries data base acc =
      cs.foldl (fun m p => put m (slice data p.1 p.2) (base + p.1, p.2)) acc := by
  obtain ⟨ai, arg, hrh⟩ := hA.head
  obtain ⟨c, ind, hf, hinfo, hw⟩ := hA.info hlen
  have := readHead_bounds hrh
  simp only [datumEntries, hinfo]
  rw [if_neg (by omega), if_neg (by omega), Int.toNat_natCast,
    itemsFrom_walk data c ind cs _ hl 0 hw.contig hw.wf hf hw.cnt hw.brk]

/-! ### scripts -/

theorem scriptGo_walk (data : Bytes) (base ty : Nat) : ∀ (cs : List (Nat × Nat)) (start : Nat)
    (acc : List ((Nat × Bytes) × Nat × Nat)), Contig start cs → InBounds data.length cs →
    scriptEntries.go base ty start (cs.map fun p => slice data p.1 p.2) acc =
      cs.foldl (fun m p => put m (ty, extractorKeyBytes ty (slice data p.1 p.2)) (base + p.1, p.2)) acc := by
  intro cs
  induction cs with
  | nil => intro start acc _ _; rfl
  | cons p rest ih =>
    intro start acc hc hin
    obtain ⟨o, l⟩ := p
    simp only [Contig] at hc
    obtain ⟨rfl, hc'⟩ := hc
    have hp := hin (o, l) (by simp)
    simp only [List.map_cons, scriptEntries.go, List.foldl_cons, slice_length hp]
    exact ih (o + l) _ hc' (fun q hq => hin q (by simp [hq]))

theorem scriptEntries_exact {data : Bytes} {hl : Nat} {cs : List (Nat × Nat)} (base ty : Nat)
    (acc : List ((Nat × Bytes) × Nat × Nat)) (hA : ArrAt data hl cs) (hlen : data.length ≤ 2147483647) :
    scriptEntries data base ty acc =
      cs.foldl (fun m p => put m (ty, extractorKeyBytes ty (slice data p.1 p.2)) (base + p.1, p.2)) acc := by
  obtain ⟨ai, arg, hrh⟩ := hA.head
  obtain ⟨c, ind, _, hinfo, _⟩ := hA.info hlen
  have := readHead_bounds hrh
  have hhs : (if data.head? = some 0x9f then 1 else (arrayInfo data).2.1) = hl := by
    split
    next h9 =>
      -- head byte `9f`: no argument bytes, the header is that one byte
      obtain ⟨x, tl, rfl, _, rfl, rfl, _⟩ := readHead_eq_mk hrh
      cases h9
      rfl
    next => rw [hinfo]
  simp only [scriptEntries, hA.raw, hhs]
  rw [if_neg (by omega)]
  exact scriptGo_walk data base ty cs hl acc hA.children.contig hA.children.inBounds

/-! ### redeemers, array form -/

theorem redeemerArrayEntry_exact {data : Bytes} {p : Nat × Nat} {he : Nat} {k0 k1 k2 : Nat × Nat}
    {more : List (Nat × Nat)} {v0 v1 l0 l1 : Nat} (base : Nat) (acc : List ((Nat × Nat) × Nat × Nat))
    (hE : ArrAt (slice data p.1 p.2) he (k0 :: k1 :: k2 :: more))
    (hlen : (slice data p.1 p.2).length ≤ 2147483647)
    (hu0 : readUint ((slice data p.1 p.2).drop k0.1) = some (v0, l0))
    (hu1 : readUint ((slice data p.1 p.2).drop k1.1) = some (v1, l1)) :
    redeemerArrayEntry data base acc p =
      put acc (v0 % 256, v1 % 4294967296) (base + p.1 + k2.1, k2.2) := by
  obtain ⟨c, ind, _, hinfo, hw⟩ := hE.info hlen
  obtain ⟨e0, w0, hw⟩ := hw.skip
  obtain ⟨e1, w1, hw⟩ := hw.skip
  obtain ⟨e2, w2, _⟩ := hw.skip
  rw [e0] at hu0
  rw [e1] at hu1
  obtain rfl := readUint_len hu0 w0
  obtain rfl := readUint_len hu1 w1
  have := wf_drop_le w0
  simp only [redeemerArrayEntry, hinfo]
  rw [if_neg (by omega), hu0]
  simp only [hu1, skipItem_of_wf w2, e2]
  simp only [Nat.add_assoc]

/-! ### redeemers, map form -/

/-- what the map walk does with one `key: value` pair -/
def redMapStep (acc : List ((Nat × Nat) × Nat × Nat)) (tag idx : Nat) (value : Bytes) (abs : Nat) :
    List ((Nat × Nat) × Nat × Nat) :=
  let vh := (arrayInfo value).2.1
  if vh ≥ value.length then acc
  else match skipItem (value.drop vh) with
    | none => acc
    | some dl => put acc (tag % 256, idx % 4294967296) (abs + vh, dl)

/-- the redeemer-map walk as a fold over the key/value child spans (it gives up at a key that
    is not a list of at least two unsigned integers) -/
def redMapFold (data : Bytes) (base : Nat) : List (Nat × Nat) →
    List ((Nat × Nat) × Nat × Nat) → List ((Nat × Nat) × Nat × Nat)
  | ks :: vs :: rest, acc =>
    match readUintList (data.drop ks.1) with
    | some (tag :: idx :: _, _) =>
      redMapFold data base rest (redMapStep acc tag idx (slice data vs.1 vs.2) (base + vs.1))
    | _ => acc
  | _, acc => acc

theorem readUintList_len {x : Bytes} {kp : List Nat} {kl l : Nat} (h : readUintList x = some (kp, kl))
    (hw : wfItem x = .ok l) : kl = l := by
  unfold readUintList at h
  split at h
  · rw [hw] at h
    split at h
    next heq =>
      cases heq
      dsimp only at h
      split at h
      · cases h; rfl
      · cases h
    · cases h
  next hrh =>
    -- `f6`, a one-byte simple value
    cases h
    obtain ⟨b, tl, rfl, _, _, rfl, _, rfl⟩ := readHead_eq_mk hrh
    rw [wfItem_eq] at hw
    simp [runS, step, hrh, action, actionCore, finish, itemDone, argLen] at hw
    omega
  · cases h

theorem redeemerMapLoop_walk (data : Bytes) (base count : Nat) (indef : Bool) :
    ∀ (n : Nat) (kv : List (Nat × Nat)) (fuel p i : Nat) (acc : List ((Nat × Nat) × Nat × Nat)),
      kv.length = 2 * n →
      Contig p kv → (∀ s ∈ kv, wfItem (data.drop s.1) = .ok s.2) →
      n < fuel →
      (indef = false → i + n = count) →
      (indef = true → ∃ tl, data.drop (p + sumLens kv) = (0xff : UInt8) :: tl) →
      redeemerMapLoop data base count indef fuel p i acc = redMapFold data base kv acc := by
  intro n kv fuel p i acc hlen hc hwf hf hdef hind
  revert acc
  refine Walk.pairs ?_ ?_ hlen ⟨hc, hwf, hdef, hind⟩ hf
  · -- no pair left
    intro fuel p i hw acc
    simp only [redeemerMapLoop, hw.stop, redMapFold]
  · -- a pair: key span `ks`, value span `vs`
    rintro fuel i n ks vs rest hw hk hvs hv ih acc
    simp only [redeemerMapLoop, hw.go, redMapFold]
    cases hru : readUintList (data.drop ks.1) with
    | none => rfl
    | some kk =>
      obtain ⟨kp, kl⟩ := kk
      obtain rfl := readUintList_len hru hk
      match kp with
      | [] => rfl
      | [_] => rfl
      | tag :: idx :: _ =>
        simp only [skipItem_of_wf hv, hvs, ih]
        rfl

theorem redMapStep_exact {value : Bytes} {hv : Nat} {d : Nat × Nat} {more : List (Nat × Nat)}
    (acc : List ((Nat × Nat) × Nat × Nat)) (tag idx abs : Nat)
    (hV : ArrAt value hv (d :: more)) (hlen : value.length ≤ 2147483647) :
    redMapStep acc tag idx value abs = put acc (tag % 256, idx % 4294967296) (abs + d.1, d.2) := by
  obtain ⟨c, ind, _, hinfo, hw⟩ := hV.info hlen
  obtain ⟨e0, w0, _⟩ := hw.skip
  have := wf_drop_le w0
  simp only [redMapStep, hinfo]
  rw [if_neg (by omega), skipItem_of_wf w0, e0]

theorem redeemerEntries_array_exact {data : Bytes} {hl : Nat} {cs : List (Nat × Nat)} (base : Nat)
    (acc : List ((Nat × Nat) × Nat × Nat)) (hA : ArrAt data hl cs) (hlen : data.length ≤ 2147483647) :
    redeemerEntries data base acc = cs.foldl (redeemerArrayEntry data base) acc := by
  obtain ⟨ai, arg, hrh⟩ := hA.head
  obtain ⟨c, ind, hf, hinfo, hw⟩ := hA.info hlen
  obtain ⟨x, tl, rfl, hx, _⟩ := readHead_eq_mk hrh
  simp only [redeemerEntries, hx, if_true, hinfo]
  rw [if_neg (by omega), Int.toNat_natCast,
    itemsFrom_walk (x :: tl) c ind cs _ hl 0 hw.contig hw.wf hf hw.cnt hw.brk]

theorem redeemerEntries_map_exact {data : Bytes} {h : Nat} {kv : List (Nat × Nat)} {ind : Bool} {ai arg : Nat}
    (base : Nat) (acc : List ((Nat × Nat) × Nat × Nat))
    (hc : childSpans data = some (h, kv, ind)) (hrh : readHead data = .mk 5 ai arg h)
    (hlen : data.length ≤ 2147483647) :
    redeemerEntries data base acc = redMapFold data base kv acc := by
  obtain ⟨n, c, hn, hf, hinfo, hw⟩ := container_walk hc hrh hlen
  obtain ⟨x, tl, rfl, hx, _⟩ := readHead_eq_mk hrh
  simp only [redeemerEntries, hx, mapInfo, hinfo, if_true]
  rw [if_neg (by omega), if_neg (by omega), Int.toNat_natCast,
    redeemerMapLoop_walk (x :: tl) base c ind n kv _ h 0 acc (by simpa using hn) hw.contig hw.wf hf
      hw.cnt hw.brk]

/-! ### the witness map -/

/-- what the witness walk does with one key/value pair (value bytes `v` at absolute `abs`) -/
def witStep (acc : Acc) (key : Nat) (v : Bytes) (abs : Nat) : Acc :=
  if key = 4 then { acc with d := datumEntries v abs acc.d }
  else if key = 5 then { acc with r := redeemerEntries v abs acc.r }
  else if key = 1 then { acc with s := scriptEntries v abs 0 acc.s }
  else if key = 3 then { acc with s := scriptEntries v abs 1 acc.s }
  else if key = 6 then { acc with s := scriptEntries v abs 2 acc.s }
  else if key = 7 then { acc with s := scriptEntries v abs 3 acc.s }
  else if key = 8 then { acc with s := scriptEntries v abs 4 acc.s }
  else acc

/-- the witness walk as a fold over the key/value child spans (it gives up at a key that is
    not an unsigned integer) -/
def witFold (data : Bytes) (base : Nat) : List (Nat × Nat) → Acc → Acc
  | ks :: vs :: rest, acc =>
    match readUint (data.drop ks.1) with
    | none => acc
    | some (key, _) => witFold data base rest (witStep acc key (slice data vs.1 vs.2) (base + vs.1))
  | _, acc => acc

theorem witLoop_walk {data : Bytes} {base count : Nat} {indef : Bool} {n fuel p i : Nat}
    {kv : List (Nat × Nat)} (hlen : kv.length = 2 * n) (hw : Walk data count indef p i n kv)
    (hf : n < fuel) (acc : Acc) :
    witLoop data base count indef fuel p i acc = witFold data base kv acc := by
  revert acc
  refine Walk.pairs ?_ ?_ hlen hw hf
  · -- no pair left
    intro fuel p i hw acc
    simp only [witLoop, hw.stop, witFold]
  · -- a pair: key span `ks`, value span `vs`
    rintro fuel i n ks vs rest hw hk hvs hv ih acc
    simp only [witLoop, hw.go, witFold]
    cases hru : readUint (data.drop ks.1) with
    | none => rfl
    | some kk =>
      obtain ⟨key, kl⟩ := kk
      obtain rfl := readUint_len hru hk
      simp only [skipItem_of_wf hv, hvs, ih]
      rfl

theorem witnessComponents_exact {data : Bytes} {h : Nat} {kv : List (Nat × Nat)} {ind : Bool} {ai arg : Nat}
    (base : Nat) (hc : childSpans data = some (h, kv, ind)) (hrh : readHead data = .mk 5 ai arg h)
    (hlen : data.length ≤ 2147483647) (h2 : 2 ≤ data.length) :
    witnessComponents data base = compOfAcc (witFold data base kv {}) := by
  obtain ⟨n, c, hn, hf, hinfo, hw⟩ := container_walk hc hrh hlen
  simp only [witnessComponents, mapInfo, hinfo]
  rw [if_neg (by omega), if_neg (by omega), Int.toNat_natCast,
    witLoop_walk (by simpa using hn) hw hf]

end GV.Model.OffsetsWit
