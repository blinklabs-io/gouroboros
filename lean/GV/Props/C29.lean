import GV.Model.NativeScript
import GV.Proofs.CborLite
import GV.Gen.RuleLists
import GV.Gen.NativeScriptIds
import GV.Gen.NativeScriptHash
import GV.Gen.NativeScriptStructs
/-!
C29 — Native scripts evaluate as the ledger defines them.

`eval (goCtx t)` is what `UtxoValidateNativeScripts` computes for a decoded transaction with
context `t` (optional validity start / TTL, witness key hashes, Dijkstra guards); `specEval t` is
the ledger's `evalTimelock`.  The rule reads the presence of the two bounds from the preserved
body bytes (`common.ValidityBounds`, `EvaluateWithBounds`, /repo commit c801ce3; before it an absent
start was encoded as 0 and an absent or zero TTL as MaxUint64), and for such transactions the full
statement `C29_full` holds.  For transactions WITHOUT preserved bytes (constructed in memory) a zero
bound still counts as absent: `eval_eq_spec_unpreserved_partial` + witness.
All theorems are over unbounded script trees.
-/
namespace GV.Props.C29
open GV.Model.NativeScript GV.Lib.CborLite
open GV.Proofs.CborLite (fixN_self)

/-- Full statement (evaluation clause), for decoded transactions. -/
def C29_full : Prop :=
  ∀ (t : TxCtx) (s : Script), hashes28 s = true → eval (goCtx t) s = specEval t s

theorem guard_eq (g : Option (List (Nat × Bytes))) (x : Nat × Bytes) :
    (match credSet g with | none => false | some l => l.contains x) =
    (match g with | none => false | some l => l.contains x) := by
  cases g with
  | none => rfl
  | some l => cases l <;> rfl

mutual
/-- `(!pres && boundary t s) = false`: outside `boundary` unless the bytes are preserved. It reduces,
    so callers pass `rfl` for `pres = true` and `boundary t s = false` for `pres = false`. -/
theorem eval_eq_spec_gen (t : TxCtx) (pres : Bool) :
    ∀ s : Script, hashes28 s = true → (!pres && boundary t s) = false →
      eval (goCtx t pres) s = specEval t s
  | .pubkey h, h28, _ => by
    simp only [hashes28, beq_iff_eq] at h28
    simp only [eval, specEval, goCtx, fixN_self h28]
  | .all l, h28, hb => (list_eq_gen t pres l h28 hb).1
  | .any l, h28, hb => (list_eq_gen t pres l h28 hb).2.1
  | .nOfK n l, h28, hb => by
    simp only [eval, specEval]; rw [(list_eq_gen t pres l h28 hb).2.2]
  | .before s, _, hb => by
    rcases t with ⟨st, tl, ks, gs⟩
    cases pres with
    | true => cases st <;> simp [eval, specEval, goCtx]
    | false =>
      rcases st with _ | _ | v
      · -- no start
        simp [eval, specEval, goCtx]
      · -- a start of 0 is read as absent: equal only because `hb` excludes the bound 0
        simp_all [eval, specEval, goCtx, boundary]
      · -- start `v + 1`
        simp [eval, specEval, goCtx]
  | .hereafter s, _, hb => by
    rcases t with ⟨st, tl, ks, gs⟩
    cases pres with
    | true => cases tl <;> simp [eval, specEval, goCtx]
    | false =>
      rcases tl with _ | _ | e
      · -- no ttl
        simp [eval, specEval, goCtx]
      · -- a ttl of 0 would be read as absent: `hb` excludes it
        simp [boundary] at hb
      · -- ttl `e + 1`
        simp [eval, specEval, goCtx]
  | .guard ty h, _, _ => guard_eq t.guards (ty, h)
theorem list_eq_gen (t : TxCtx) (pres : Bool) :
    ∀ l : List Script, hashes28L l = true → (!pres && boundaryL t l) = false →
      evalAll (goCtx t pres) l = specAll t l ∧ evalAny (goCtx t pres) l = specAny t l ∧
        countTrue (goCtx t pres) l = specCount t l
  | [], _, _ => ⟨rfl, rfl, rfl⟩
  | s :: r, h28, hb => by
    simp only [hashes28L, Bool.and_eq_true] at h28
    simp only [boundaryL, Bool.and_or_distrib_left, Bool.or_eq_false_iff] at hb
    have hs := eval_eq_spec_gen t pres s h28.1 hb.1
    have hr := list_eq_gen t pres r h28.2 hb.2
    simp only [evalAll, evalAny, countTrue, specAll, specAny, specCount, hs, hr, and_self]
end

theorem eval_eq_spec (t : TxCtx) :
    ∀ s : Script, hashes28 s = true → eval (goCtx t) s = specEval t s :=
  fun s h => eval_eq_spec_gen t true s h rfl
theorem all_eq (t : TxCtx) :
    ∀ l : List Script, hashes28L l = true → evalAll (goCtx t) l = specAll t l :=
  fun l h => (list_eq_gen t true l h rfl).1
theorem any_eq (t : TxCtx) :
    ∀ l : List Script, hashes28L l = true → evalAny (goCtx t) l = specAny t l :=
  fun l h => (list_eq_gen t true l h rfl).2.1
theorem count_eq (t : TxCtx) :
    ∀ l : List Script, hashes28L l = true → countTrue (goCtx t) l = specCount t l :=
  fun l h => (list_eq_gen t true l h rfl).2.2

/-- **The full statement holds** (decoded transactions). -/
theorem C29_full_holds : C29_full := fun t s h => eval_eq_spec t s h

theorem firstFail_isNone (c : GoCtx) :
    ∀ (l : List Script) (i : Nat), (firstFail c l i).isNone = evalAll c l
  | [], _ => rfl
  | s :: r, i => by
    simp only [firstFail, evalAll]
    cases eval c s with
    | true => simpa using firstFail_isNone c r (i + 1)
    | false => rfl

/-- The rule's verdict: the first failing script is the first one the ledger semantics fails. -/
theorem rule_eq_spec (t : TxCtx) (l : List Script) (h28 : hashes28L l = true) :
    (ruleFirstFail t l).isNone = specAll t l := by
  rw [ruleFirstFail, firstFail_isNone, all_eq t l h28]

/-- Transactions without preserved bytes: equality outside the class `boundary`. -/
theorem eval_eq_spec_unpreserved_partial (t : TxCtx) :
    ∀ s : Script, hashes28 s = true → boundary t s = false → eval (goCtx t false) s = specEval t s :=
  eval_eq_spec_gen t false
theorem all_eq_u (t : TxCtx) :
    ∀ l : List Script, hashes28L l = true → boundaryL t l = false →
      evalAll (goCtx t false) l = specAll t l :=
  fun l h hb => (list_eq_gen t false l h hb).1
theorem any_eq_u (t : TxCtx) :
    ∀ l : List Script, hashes28L l = true → boundaryL t l = false →
      evalAny (goCtx t false) l = specAny t l :=
  fun l h hb => (list_eq_gen t false l h hb).2.1
theorem count_eq_u (t : TxCtx) :
    ∀ l : List Script, hashes28L l = true → boundaryL t l = false →
      countTrue (goCtx t false) l = specCount t l :=
  fun l h hb => (list_eq_gen t false l h hb).2.2

/-- n-of-k counts the sub-scripts that evaluate true (no short-circuit artefact). -/
theorem nOfK_count (c : GoCtx) (n : Nat) (l : List Script) :
    eval c (.nOfK n l) = decide (n ≤ (l.filter (eval c)).length) := by
  have h : ∀ l : List Script, countTrue c l = (l.filter (eval c)).length := by
    intro l
    induction l with
    | nil => simp [countTrue]
    | cons s r ih =>
      simp only [countTrue, ih, List.filter_cons]
      cases eval c s <;> simp <;> omega
  simp only [eval, h]

theorem all_iff (c : GoCtx) (l : List Script) : eval c (.all l) = l.all (eval c) := by
  simp only [eval]
  induction l with
  | nil => simp [evalAll]
  | cons s r ih => simp [evalAll, ih]

theorem any_iff (c : GoCtx) (l : List Script) : eval c (.any l) = l.any (eval c) := by
  simp only [eval]
  induction l with
  | nil => simp [evalAny]
  | cons s r ih => simp [evalAny, ih]

/-- "Pubkey means a matching witness". -/
theorem pubkey_iff (c : GoCtx) (h : Bytes) (hl : h.length = 28) :
    eval c (.pubkey h) = true ↔ h ∈ c.keyHashes := by
  simp [eval, fixN_self hl]

/-- "invalid-before holds only if the transaction has a validity start no earlier than the
    bound" — for every bound, 0 included. -/
theorem before_sound (t : TxCtx) (s : Nat) :
    eval (goCtx t) (.before s) = true → ∃ st, t.start = some st ∧ s ≤ st := by
  rcases t with ⟨st, tl, ks, gs⟩
  cases st <;> simp [eval, goCtx]

/-- "invalid-hereafter holds only if the transaction has an upper bound no later than the
    bound" — for every bound, MaxUint64 included. -/
theorem hereafter_sound (t : TxCtx) (s : Nat) :
    eval (goCtx t) (.hereafter s) = true → ∃ e, t.ttl = some e ∧ e ≤ s := by
  rcases t with ⟨st, tl, ks, gs⟩
  cases tl <;> simp [eval, goCtx]

/-- The three inputs on which the rule differed from the ledger before /repo commit c801ce3
    (absent start vs `InvalidBefore 0`, absent TTL vs `InvalidHereafter MaxUint64`, present TTL 0):
    the rule gives the ledger's answer on each. -/
theorem C29_fixed_witnesses :
    eval (goCtx ⟨none, none, [], none⟩) (.before 0) = false ∧
    eval (goCtx ⟨none, none, [], none⟩) (.hereafter max64) = false ∧
    eval (goCtx ⟨none, some 0, [], none⟩) (.hereafter 7) = true := by
  decide

/-- Without preserved bytes a present zero bound is still taken for absent. -/
theorem unpreserved_witness :
    eval (goCtx ⟨some 0, some 0, [], none⟩ false) (.before 0) = false ∧
    specEval ⟨some 0, some 0, [], none⟩ (.before 0) = true ∧
    eval (goCtx ⟨some 0, some 0, [], none⟩ false) (.hereafter 7) = false ∧
    specEval ⟨some 0, some 0, [], none⟩ (.hereafter 7) = true := by
  decide

mutual
/-- More witnesses never invalidate a script (no negation in the language). -/
theorem eval_mono_keys (c : GoCtx) (ks : List Bytes) (hsub : ∀ k, k ∈ c.keyHashes → k ∈ ks) :
    ∀ s : Script, eval c s = true → eval { c with keyHashes := ks } s = true
  | .pubkey h, hv => by
    simp only [eval, List.contains_iff_mem] at hv ⊢; exact hsub _ hv
  | .all l, hv => (mono_list c ks hsub l).1 hv
  | .any l, hv => (mono_list c ks hsub l).2.1 hv
  | .nOfK n l, hv => by
    simp only [eval, decide_eq_true_eq] at hv ⊢
    exact Nat.le_trans hv (mono_list c ks hsub l).2.2
  -- the remaining constructors do not read `keyHashes`
  | .before _, hv => hv
  | .hereafter _, hv => hv
  | .guard _ _, hv => hv
theorem mono_list (c : GoCtx) (ks : List Bytes) (hsub : ∀ k, k ∈ c.keyHashes → k ∈ ks) :
    ∀ l : List Script,
      (evalAll c l = true → evalAll { c with keyHashes := ks } l = true) ∧
      (evalAny c l = true → evalAny { c with keyHashes := ks } l = true) ∧
      countTrue c l ≤ countTrue { c with keyHashes := ks } l
  | [] => by simp [evalAll, evalAny, countTrue]
  | s :: r => by
    have h1 := eval_mono_keys c ks hsub s
    have h2 := mono_list c ks hsub r
    refine ⟨?_, ?_, ?_⟩
    · simp only [evalAll, Bool.and_eq_true]; exact And.imp h1 h2.1
    · simp only [evalAny, Bool.or_eq_true]; exact Or.imp h1 h2.2.1
    · refine Nat.add_le_add ?_ h2.2.2
      cases hs : eval c s with
      | false => exact Nat.zero_le _
      | true => rw [h1 hs]; exact Nat.le_refl _
end

/-- Regenerated tie: the native-script rule is an entry of every era's rule list from Allegra on
    (lists re-extracted from /repo's source on every run). -/
theorem rules_listed :
    ∀ l ∈ [GV.Gen.RuleLists.allegra, GV.Gen.RuleLists.mary, GV.Gen.RuleLists.alonzo,
           GV.Gen.RuleLists.babbage, GV.Gen.RuleLists.conway, GV.Gen.RuleLists.dijkstra],
      "UtxoValidateNativeScripts" ∈ l := by
  -- membership by finding the name; no two names are ever compared for inequality
  simp only [List.forall_mem_cons, List.not_mem_nil, false_imp_iff, implies_true, and_true]
  simp only [GV.Gen.RuleLists.allegra, GV.Gen.RuleLists.mary, GV.Gen.RuleLists.alonzo,
    GV.Gen.RuleLists.babbage, GV.Gen.RuleLists.conway, GV.Gen.RuleLists.dijkstra,
    List.mem_cons, true_or, or_true, and_self]

/-- Regenerated tie: the type-id switch of `NativeScript.UnmarshalCBOR` (re-extracted on every
    run) maps exactly the ids the model's parser accepts to the structures it builds. -/
theorem gen_type_ids :
    (∀ e ∈ GV.Gen.NativeScriptIds.table, ctorName e.1 = some e.2) ∧
    (∀ id, id < 32 → (ctorName id).isSome = (GV.Gen.NativeScriptIds.table.map (·.1)).contains id) := by
  refine ⟨?_, by decide⟩
  simp only [GV.Gen.NativeScriptIds.table, List.forall_mem_cons, List.not_mem_nil, false_imp_iff,
    implies_true, and_true]
  exact ⟨rfl, rfl, rfl, rfl, rfl, rfl, rfl⟩

theorem consumed_nil (b : Bytes) : consumed b [] = b := by
  unfold consumed; simp

theorem finish_spans {b : Bytes} {arg : Arg} {body : Option (Script × List Bytes × Bytes × Nat)}
    {p : Parsed} {r : Bytes} (h : finish b arg body = some (p, r)) : storedBytes p = consumed b r := by
  revert h
  fun_cases finish b arg body <;> intro h <;> cases h <;> rfl

theorem spans_head {f : Nat} {b : Bytes} {p : Parsed} {r : Bytes}
    (h : parseScript f b = some (p, r)) : storedBytes p = consumed b r := by
  cases f with
  | zero => simp [parseScript] at h
  | succ f =>
    unfold parseScript at h
    split at h
    · split at h
      · cases h
      · exact finish_spans h
    · cases h

/-- **Byte preservation**: what a decoded script stores (`s.Cbor()`) is its original encoding. -/
theorem stored_is_original (b : Bytes) (p : Parsed) (h : decode b = some p) : storedBytes p = b := by
  unfold decode at h
  split at h
  · rename_i p' hp
    cases h
    rw [spans_head hp, consumed_nil]
  · cases h

/-- **The hash clause**: a decoded script's hash is the digest of a zero byte followed by its
    ORIGINAL encoding, for every digest function (Blake2b-224 is a primitive). -/
theorem hash_original_bytes {D : Type} (h224 : Bytes → D) (b : Bytes) (p : Parsed)
    (h : decode b = some p) : hashOf h224 p = h224 (0x00 :: b) := by
  unfold hashOf; rw [stored_is_original b p h]

/-- Under an injective digest (ideal binding) equal hashes mean equal original bytes: two
    different encodings of the same script tree have different hashes. -/
theorem hash_binding {D : Type} (h224 : Bytes → D) (hinj : Function.Injective h224)
    (b1 b2 : Bytes) (p1 p2 : Parsed) (h1 : decode b1 = some p1) (h2 : decode b2 = some p2)
    (he : hashOf h224 p1 = hashOf h224 p2) : b1 = b2 := by
  rw [hash_original_bytes h224 b1 p1 h1, hash_original_bytes h224 b2 p2 h2] at he
  have := hinj he
  simpa using this

/-- toy digest (identity): the hypotheses are satisfiable, and the hash of `[4, 0]` (InvalidBefore 0)
    decoded from its definite and from its indefinite encoding differ -/
example : Function.Injective (fun b : Bytes => b) := fun _ _ h => h
example :
    (decode [0x82, 0x04, 0x00]).map (hashOf (fun b => b)) = some [0x00, 0x82, 0x04, 0x00] ∧
    (decode [0x9f, 0x04, 0x00, 0xff]).map (hashOf (fun b => b)) = some [0x00, 0x9f, 0x04, 0x00, 0xff] := by
  decide

/-- Regenerated tie (go/ast facts, re-extracted on every run): `NativeScript.Hash` is
    `ScriptHash(Blake2b224Hash(slices.Concat([]byte{ScriptRefTypeNativeScript}, []byte(s.Cbor()))))` —
    it hashes the STORED bytes of the receiver, not a re-encoding; the prefix constant is 0; and
    `UnmarshalCBOR` stores its input first (`n.SetCbor(data)`). -/
theorem gen_hash_source :
    GV.Gen.NativeScriptHash.hashFn = "Blake2b224Hash" ∧
    GV.Gen.NativeScriptHash.prefixExpr = "ScriptRefTypeNativeScript" ∧
    GV.Gen.NativeScriptHash.prefixValue = 0 ∧
    GV.Gen.NativeScriptHash.bytesExpr = GV.Gen.NativeScriptHash.receiver ++ ".Cbor()" ∧
    GV.Gen.NativeScriptHash.unmarshalFirstStmt =
      "n.SetCbor(" ++ GV.Gen.NativeScriptHash.unmarshalParam ++ ")" :=
  ⟨rfl, rfl, rfl, rfl, rfl⟩

/-- Regenerated tie: the NativeScript* structures (filled by position: cbor.StructAsArray) declare
    their fields in the order the model's parser reads them, for every type id of the decoder's
    switch. -/
theorem gen_struct_fields :
    ∀ e ∈ GV.Gen.NativeScriptIds.table,
      (GV.Gen.NativeScriptStructs.table.lookup e.2) =
        (fieldLayout e.1).map (fun l => "embedded cbor.StructAsArray" :: l) := by
  decide +kernel

/-- Non-vacuity: a nested script with both kinds of time lock, evaluated true by both sides of
    `eval_eq_spec` (`goCtx t`: preserved bytes). It also lies outside the boundary class of
    `eval_eq_spec_unpreserved_partial`, but `goCtx t false` is not evaluated on it. -/
example :
    let t : TxCtx := ⟨some 10, some 20, [List.replicate 28 1], none⟩
    let s : Script := .all [.pubkey (List.replicate 28 1), .nOfK 1 [.before 11, .hereafter 20], .any [.before 3]]
    hashes28 s = true ∧ boundary t s = false ∧ eval (goCtx t) s = true ∧ specEval t s = true := by
  decide

end GV.Props.C29
