import GV.Model.Address
import GV.Proofs.CborLite
import GV.Gen.AddrConsts
import GV.Gen.AddrTrailers
import GV.Gen.AddrSwitches
/-!
C05 — Address encodings are mutually consistent.

For the Shelley family `parse` and `bytes` are inverse: `parse_bytes` on every well-formed address
value (`Valid`), `bytes_parse` on every accepted byte string whose pointer varints are minimal
(`MinimalVars`; the decoder also accepts non-minimal and over-long varints, which `bytes` writes
differently).  Byron addresses round-trip through their CBOR frame under any 32-bit CRC function,
and both text forms round-trip.

All theorems are about `GV.Model.Address` (mirror of ledger/common/address.go).  bech32, base58 and
CRC-32 are not modelled: what they return for the string at hand are the fields of `TextPrims` and
the parameter `crc`, and the laws a theorem needs of them are hypotheses of that theorem.
-/
namespace GV.Props.C05
open GV.Model.Address GV.Lib.CborLite
open GV.Proofs.CborLite (toNat_ofNat_lt)

/-- Regenerated tie: the header constants in the source are the CIP-19 values the model uses. -/
theorem gen_consts :
    GV.Gen.AddrConsts.headerTypeMask = 240 ∧ GV.Gen.AddrConsts.headerNetworkMask = 15 ∧
    GV.Gen.AddrConsts.hashSize = 28 ∧
    GV.Gen.AddrConsts.networkTestnet = 0 ∧ GV.Gen.AddrConsts.networkMainnet = 1 ∧
    [GV.Gen.AddrConsts.typeKeyKey, GV.Gen.AddrConsts.typeScriptKey, GV.Gen.AddrConsts.typeKeyScript,
     GV.Gen.AddrConsts.typeScriptScript, GV.Gen.AddrConsts.typeKeyPointer,
     GV.Gen.AddrConsts.typeScriptPointer, GV.Gen.AddrConsts.typeKeyNone,
     GV.Gen.AddrConsts.typeScriptNone, GV.Gen.AddrConsts.typeByron, GV.Gen.AddrConsts.typeNoneKey,
     GV.Gen.AddrConsts.typeNoneScript] = [0, 1, 2, 3, 4, 5, 6, 7, 8, 14, 15] := by decide

/-- Regenerated tie: the case lists of the three `switch a.addressType` statements of
    `populateFromBytes` (re-extracted from the source on every run) are exactly the model's
    `knownType` / `payKind` / `stakeKind` for every header nibble. -/
theorem gen_switches : ∀ t, t < 16 →
    knownType t = GV.Gen.AddrSwitches.knownTypes.contains t ∧
    decide (payKind t = 0) = GV.Gen.AddrSwitches.payKey.contains t ∧
    decide (payKind t = 1) = GV.Gen.AddrSwitches.payScript.contains t ∧
    decide (stakeKind t = 0) = GV.Gen.AddrSwitches.stakeKey.contains t ∧
    decide (stakeKind t = 1) = GV.Gen.AddrSwitches.stakeScript.contains t ∧
    decide (stakeKind t = 2) = GV.Gen.AddrSwitches.stakePointer.contains t := by
  decide

/-- every whitelisted trailer is non-empty (an exact-length address never carries extra data) -/
theorem trailers_nonempty : ∀ t ∈ GV.Gen.AddrTrailers.trailers, t ≠ [] := by decide

/-- continuation groups (MSB first) of a prefix value -/
def contBytes (v : Nat) : Bytes :=
  if h : v = 0 then [] else contBytes (v / 128) ++ [UInt8.ofNat (v % 128 + 128)]
termination_by v
decreasing_by omega

theorem writeVarGo_eq (f v : Nat) (acc : Bytes) (h : v < 128 ^ f) :
    writeVarGo f v acc = contBytes v ++ acc := by
  fun_induction writeVarGo f v acc with
  | case1 v acc =>
    -- no slot left, and `v < 128 ^ 0`
    obtain rfl : v = 0 := by simpa using h
    rw [contBytes, dif_pos rfl]; rfl
  | case2 f acc => rw [contBytes, dif_pos rfl]; rfl  -- value used up
  | case3 f v acc hv ih =>
    -- one more group in front of `acc`
    have hlt : v / 128 < 128 ^ f := (Nat.div_lt_iff_lt_mul (by decide)).mpr (Nat.pow_succ .. ▸ h)
    rw [contBytes, dif_neg hv, ih hlt, List.append_assoc]; rfl

theorem writeVar_eq (n : Nat) (hn : n < two64) :
    writeVar n = contBytes (n / 128) ++ [UInt8.ofNat (n % 128)] :=
  writeVarGo_eq 9 _ _ (by unfold two64 at hn; omega)

/-- `readVarUint` without the 64-bit wrap: the number the bytes denote -/
def readVarU : Bytes → Nat → Option (Nat × Bytes)
  | [], _ => none
  | b :: r, acc =>
    if b.toNat < 128 then some (acc * 128 + b.toNat % 128, r)
    else readVarU r (acc * 128 + b.toNat % 128)

/-- at `acc % two64` so that the induction goes through: `readVar` wraps after every group, `readVarU` never -/
theorem readVar_eq_readVarU : ∀ (b : Bytes) (acc : Nat),
    readVar b (acc % two64) = (readVarU b acc).map fun p => (p.1 % two64, p.2)
  | [], _ => rfl
  | x :: t, acc => by
    have hacc : (acc % two64 * 128 + x.toNat % 128) % two64 = (acc * 128 + x.toNat % 128) % two64 := by
      rw [← Nat.mod_add_mod, Nat.mod_mul_mod, Nat.mod_add_mod]
    rw [readVar, readVarU, hacc]
    by_cases hx : x.toNat < 128
    · rw [if_pos hx, if_pos hx]; rfl
    · rw [if_neg hx, if_neg hx]; exact readVar_eq_readVarU t _

theorem readVar_of_readVarU {b : Bytes} {n : Nat} {r : Bytes} (h : readVarU b 0 = some (n, r))
    (hn : n < two64) : readVar b 0 = some (n, r) := by
  have := readVar_eq_readVarU b 0
  rwa [h, Option.map_some, Nat.mod_eq_of_lt hn] at this

theorem readVarU_cont_byte (g acc : Nat) (hg : g < 128) (tail : Bytes) :
    readVarU (UInt8.ofNat (g + 128) :: tail) acc = readVarU tail (acc * 128 + g) := by
  have h2 : (g + 128) % 128 = g := by omega
  rw [readVarU, toNat_ofNat_lt (g + 128) (by omega), h2, if_neg (by omega)]

theorem readVarU_last_byte (g acc : Nat) (hg : g < 128) (tail : Bytes) :
    readVarU (UInt8.ofNat g :: tail) acc = some (acc * 128 + g, tail) := by
  rw [readVarU, toNat_ofNat_lt g (by omega), if_pos hg, Nat.mod_eq_of_lt hg]

theorem readVarU_cont (v : Nat) (tail : Bytes) : readVarU (contBytes v ++ tail) 0 = readVarU tail v := by
  fun_induction contBytes v generalizing tail with
  | case1 => rfl  -- `v = 0`: no group
  | case2 v hv ih =>
    -- the groups of `v / 128` leave the accumulator at `v / 128`; then the group `v % 128`
    rw [List.append_assoc, ih, List.singleton_append, readVarU_cont_byte _ _ (Nat.mod_lt _ (by decide)),
      Nat.div_add_mod' v 128]

theorem readVarU_writeVar (n : Nat) (hn : n < two64) (rest : Bytes) :
    readVarU (writeVar n ++ rest) 0 = some (n, rest) := by
  rw [writeVar_eq n hn, List.append_assoc, readVarU_cont, List.singleton_append,
    readVarU_last_byte _ _ (Nat.mod_lt _ (by decide)), Nat.div_add_mod' n 128]

/-- Pointer varints round-trip for every 64-bit value, whatever follows. -/
theorem varint_roundtrip (n : Nat) (hn : n < two64) (rest : Bytes) :
    readVar (writeVar n ++ rest) 0 = some (n, rest) :=
  readVar_of_readVarU (readVarU_writeVar n hn rest) hn

/-- no redundant leading group: the first byte is not 0x80 -/
def noLeadZero : Bytes → Prop
  | [] => True
  | x :: _ => x.toNat ≠ 128

theorem group_div_mod (acc g : Nat) (hg : g < 128) :
    (acc * 128 + g) / 128 = acc ∧ (acc * 128 + g) % 128 = g := by omega

theorem contBytes_step (acc g : Nat) (hg : g < 128) (h : acc * 128 + g ≠ 0) :
    contBytes (acc * 128 + g) = contBytes acc ++ [UInt8.ofNat (g + 128)] := by
  rw [contBytes, dif_neg h, (group_div_mod acc g hg).1, (group_div_mod acc g hg).2]

/-- `varint_minimal` for the loop of `readVarU` in mid-flight: `acc` is the value of the groups already
    read.  The encoder writes every group as it was read, except that it drops a zero group (0x80) read
    at `acc = 0`; `acc ≠ 0 ∨ noLeadZero b` excludes that for the next byte. -/
theorem write_of_readU (b : Bytes) (acc n : Nat) (r : Bytes)
    (h : readVarU b acc = some (n, r)) (hc : acc ≠ 0 ∨ noLeadZero b) :
    contBytes acc ++ b = contBytes (n / 128) ++ [UInt8.ofNat (n % 128)] ++ r := by
  fun_induction readVarU b acc with
  | case1 => cases h  -- no byte left: nothing is read
  | case2 x t acc hx =>
    -- last group: `n = acc * 128 + x`
    cases h
    obtain ⟨h1, h2⟩ := group_div_mod acc (x.toNat % 128) (Nat.mod_lt _ (by decide))
    rw [h1, h2, Nat.mod_eq_of_lt hx, UInt8.ofNat_toNat, List.append_assoc, List.singleton_append]
  | case3 x t acc hx ih =>
    -- continuation group: it joins the prefix value, which is non-zero from here on
    have hx256 : x.toNat < 256 := x.toNat_lt
    have hg : x.toNat % 128 < 128 := Nat.mod_lt _ (by decide)
    have hne : acc * 128 + x.toNat % 128 ≠ 0 := by
      rcases hc with hc | hc
      · omega
      · simp only [noLeadZero] at hc; omega
    have hx' : x.toNat % 128 + 128 = x.toNat := by omega
    rw [← ih h (Or.inl hne), contBytes_step acc _ hg hne, hx', UInt8.ofNat_toNat,
      List.append_assoc, List.singleton_append]

/-- A varint that denotes a 64-bit number without a redundant leading group is exactly what the
    encoder writes for that number. -/
theorem varint_minimal (b : Bytes) (n : Nat) (r : Bytes) (hU : readVarU b 0 = some (n, r))
    (hn : n < two64) (hl : noLeadZero b) : writeVar n ++ r = b := by
  rw [writeVar_eq n hn, ← write_of_readU b 0 n r hU (Or.inr hl)]
  simp [contBytes]

theorem ptr_roundtrip (p : Ptr) (h1 : p.slot < two64) (h2 : p.tx < two64) (h3 : p.cert < two64)
    (rest : Bytes) : readPtr (writePtr p ++ rest) = some (p, rest) := by
  simp only [readPtr, writePtr, List.append_assoc, varint_roundtrip _ h1, varint_roundtrip _ h2,
    varint_roundtrip _ h3]

/-- `k` consecutive minimal varints of 64-bit numbers -/
def MinimalVars : Nat → Bytes → Prop
  | 0, _ => True
  | k + 1, b => noLeadZero b ∧ ∃ n r, readVarU b 0 = some (n, r) ∧ n < two64 ∧ MinimalVars k r

theorem readPtr_minimal (b : Bytes) (p : Ptr) (r : Bytes) (h : readPtr b = some (p, r))
    (hm : MinimalVars 3 b) : writePtr p ++ r = b := by
  obtain ⟨l1, n1, r1, u1, b1, l2, n2, r2, u2, b2, l3, n3, r3, u3, b3, _⟩ := hm
  simp only [readPtr, readVar_of_readVarU u1 b1, readVar_of_readVarU u2 b2, readVar_of_readVarU u3 b3,
    Option.some.injEq, Prod.mk.injEq] at h
  obtain ⟨rfl, rfl⟩ := h
  simp only [writePtr, List.append_assoc]
  rw [varint_minimal _ _ _ u3 b3 l3, varint_minimal _ _ _ u2 b2 l2, varint_minimal _ _ _ u1 b1 l1]

/-- the encoder at the boundaries: one byte up to 127, two from 128, ten for the largest 64-bit value -/
example : writeVar 0 = [0] ∧ writeVar 127 = [127] ∧ writeVar 128 = [0x81, 0] ∧
    (writeVar (two64 - 1)).length = 10 := by decide

theorem knownType_iff {t : Nat} : knownType t = true ↔ t ≤ 7 ∨ t = 14 ∨ t = 15 := by
  simp [knownType, or_assoc]

/-- what `parse` has checked and computed when it accepts `h0 :: rest` as `a` -/
structure Parsed (wl : List Bytes) (h0 : UInt8) (rest : Bytes) (a : Addr) : Prop where
  typ : a.typ = h0.toNat / 16
  net : a.net = h0.toNat % 16
  ne8 : a.typ ≠ 8
  net01 : a.net = 0 ∨ a.net = 1
  known : knownType a.typ = true
  parts : ∃ r1, parsePay a.typ rest = .ok (a.pay, r1) ∧ parseStake a.typ r1 = .ok (a.stake, a.extra)
  extra : a.extra = [] ∨ (a.net = 1 ∧ wl.contains a.extra = true)

theorem parse_ok {wl : List Bytes} {b : Bytes} {a : Addr} (h : parse wl b = .ok a) :
    ∃ h0 rest, b = h0 :: rest ∧ Parsed wl h0 rest a := by
  revert h
  fun_cases parse wl b <;> intro h <;> cases h
  -- the two accepting rungs: nothing left over, or whitelisted bytes on mainnet
  case case7 h0 rest typ net h8 hn hk pay r1 hp stake hs =>
    exact ⟨h0, rest, rfl, rfl, rfl, h8, (by omega : net = 0 ∨ net = 1), by simpa using hk, ⟨r1, hp, hs⟩, .inl rfl⟩
  case case8 h0 rest typ net h8 hn hk pay r1 hp stake r2 hs _ hw =>
    exact ⟨h0, rest, rfl, rfl, rfl, h8, (by omega : net = 0 ∨ net = 1), by simpa using hk, ⟨r1, hp, hs⟩, .inr hw⟩

/-- The reported type and network are exactly the header nibbles. -/
theorem header_nibbles (wl : List Bytes) (b : Bytes) (a : Addr) (h : parse wl b = .ok a) :
    ∃ h0 rest, b = h0 :: rest ∧ a.typ = h0.toNat / 16 ∧ a.net = h0.toNat % 16 := by
  obtain ⟨h0, rest, hb, hp⟩ := parse_ok h
  exact ⟨h0, rest, hb, hp.typ, hp.net⟩

/-- Accepted addresses have a known type and network 0 or 1. -/
theorem accepted_known (wl : List Bytes) (b : Bytes) (a : Addr) (h : parse wl b = .ok a) :
    knownType a.typ = true ∧ (a.net = 0 ∨ a.net = 1) := by
  obtain ⟨_, _, _, hp⟩ := parse_ok h
  exact ⟨hp.known, hp.net01⟩

/-- Reserved types 9–13 are rejected. -/
theorem rejects_reserved_type (wl : List Bytes) (h0 : UInt8) (rest : Bytes)
    (ht : 9 ≤ h0.toNat / 16 ∧ h0.toNat / 16 ≤ 13) : ∃ e, parse wl (h0 :: rest) = .error e := by
  cases hp : parse wl (h0 :: rest) with
  | error e => exact ⟨e, rfl⟩
  | ok a =>
    obtain ⟨_, _, hb, ha⟩ := parse_ok hp
    cases hb
    have := knownType_iff.mp (ha.typ ▸ ha.known)
    omega

/-- A network nibble other than 0 / 1 is rejected (Shelley family). -/
theorem rejects_bad_network (wl : List Bytes) (h0 : UInt8) (rest : Bytes)
    (ht : h0.toNat / 16 ≠ 8) (hn : 2 ≤ h0.toNat % 16) : parse wl (h0 :: rest) = .error .network := by
  simp only [parse, ht, ↓reduceIte]
  have : h0.toNat % 16 ≠ 0 ∧ h0.toNat % 16 ≠ 1 := by omega
  simp [this]

/-- Empty input is rejected. -/
theorem rejects_empty (wl : List Bytes) : parse wl [] = .error .empty := rfl

/-- Trailing bytes are never accepted on testnet, and on mainnet only when whitelisted. -/
theorem extra_only_whitelisted (wl : List Bytes) (b : Bytes) (a : Addr) (h : parse wl b = .ok a) :
    a.extra = [] ∨ (a.net = 1 ∧ a.extra ∈ wl) := by
  obtain ⟨_, _, _, hp⟩ := parse_ok h
  simpa using hp.extra

def payOK (t : Nat) : Pay → Prop
  | .none => payKind t = 2
  | .key h => payKind t = 0 ∧ h.length = 28
  | .script h => payKind t = 1 ∧ h.length = 28

def stakeOK (t : Nat) : Stake → Prop
  | .none => stakeKind t = 3
  | .key h => stakeKind t = 0 ∧ h.length = 28
  | .script h => stakeKind t = 1 ∧ h.length = 28
  | .ptr p => stakeKind t = 2 ∧ p.slot < two64 ∧ p.tx < two64 ∧ p.cert < two64

/-- a well-formed address value: known type, network 0/1, payload kinds as the type says, 28-byte
    hashes, 64-bit pointer components, extra data only from the mainnet whitelist -/
def Valid (wl : List Bytes) (a : Addr) : Prop :=
  knownType a.typ = true ∧ (a.net = 0 ∨ a.net = 1) ∧ payOK a.typ a.pay ∧ stakeOK a.typ a.stake ∧
  (a.extra = [] ∨ (a.net = 1 ∧ wl.contains a.extra = true))

theorem parsePay_bytes (t : Nat) (pay : Pay) (h : payOK t pay) (r : Bytes) :
    parsePay t (payBytes pay ++ r) = .ok (pay, r) := by
  cases pay
  all_goals
    simp only [payOK] at h
    simp [parsePay, payBytes, h, List.take_left', List.drop_left']

theorem parseStake_bytes (t : Nat) (st : Stake) (h : stakeOK t st) (r : Bytes) :
    parseStake t (stakeBytes st ++ r) = .ok (st, r) := by
  cases st
  all_goals
    simp only [stakeOK] at h
    simp [parseStake, stakeBytes, h, List.take_left', List.drop_left', ptr_roundtrip]

theorem header_eq (a : Addr) (ht : a.typ < 16) (hn : a.net < 16) :
    header a = UInt8.ofNat (a.typ * 16 + a.net) := by
  unfold header
  rw [Nat.mod_eq_of_lt (by omega), Nat.mod_eq_of_lt hn, Nat.mul_comm,
    ← Nat.two_pow_add_eq_or_of_lt (i := 4) hn]

theorem header_facts (a : Addr) (ht : a.typ < 16) (hn : a.net < 16) :
    (header a).toNat / 16 = a.typ ∧ (header a).toNat % 16 = a.net := by
  rw [header_eq a ht hn, toNat_ofNat_lt _ (by omega)]
  omega

/-- parse ∘ bytes = id on valid addresses (all ten Shelley-family types, both networks, pointers
    of any 64-bit value, whitelisted mainnet trailers). -/
theorem parse_bytes (wl : List Bytes) (a : Addr) (hv : Valid wl a) : parse wl (bytes a) = .ok a := by
  obtain ⟨hk, hn, hp, hs, he⟩ := hv
  have hkt := knownType_iff.mp hk
  obtain ⟨h1, h2⟩ := header_facts a (by omega) (by omega)
  have h8 : ¬ a.typ = 8 := by omega
  have hnn : ¬ (a.net ≠ 0 ∧ a.net ≠ 1) := by omega
  obtain ⟨typ, net, pay, stake, extra⟩ := a
  simp only at h8 hnn hk hp hs he
  simp only [bytes, parse, h1, h2, if_neg h8, if_neg hnn, hk, List.append_assoc, parsePay_bytes typ pay hp,
    parseStake_bytes typ stake hs, Bool.true_eq_false, ↓reduceIte]
  by_cases hz : extra = []
  · rw [if_pos hz, hz]
  · rw [if_neg hz, if_pos (he.resolve_left hz)]

/-- Non-vacuity: a pointer address at the varint boundaries round-trips. -/
example :
    let a : Addr := ⟨4, 1, .key (List.replicate 28 7), .ptr ⟨two64 - 1, 128, 0⟩, []⟩
    Valid [] a ∧ (match parse [] (bytes a) with | .ok b => decide (b = a) | .error _ => false) = true := by
  refine ⟨⟨by decide, by decide, ⟨by decide, by decide⟩, ⟨by decide, by decide, by decide, by decide⟩, Or.inl rfl⟩, by decide⟩

theorem parsePay_inv (t : Nat) (rest : Bytes) (pay : Pay) (r1 : Bytes)
    (h : parsePay t rest = .ok (pay, r1)) :
    payBytes pay ++ r1 = rest ∧ (payKind t ≠ 2 → r1 = rest.drop 28) := by
  revert h
  fun_cases parsePay t rest <;> intro h <;> cases h
  -- `payKind t = 2`: no payment part, nothing consumed
  case case1 hk => exact ⟨rfl, fun hh => absurd hk hh⟩
  -- key or script hash: the first 28 bytes
  all_goals exact ⟨List.take_append_drop 28 rest, fun _ => rfl⟩

theorem parseStake_inv (t : Nat) (r1 : Bytes) (st : Stake) (r2 : Bytes)
    (h : parseStake t r1 = .ok (st, r2)) (hm : stakeKind t = 2 → MinimalVars 3 r1) :
    stakeBytes st ++ r2 = r1 := by
  revert h
  fun_cases parseStake t r1 <;> intro h <;> cases h
  -- `stakeKind t = 3`: no stake part, nothing consumed
  case case1 => rfl
  -- `stakeKind t = 2`: the pointer `readPtr` returned
  case case3 h2 p hp => exact readPtr_minimal r1 _ _ hp (hm h2)
  -- key or script hash: the first 28 bytes
  all_goals exact List.take_append_drop 28 r1

theorem header_inv (h0 : UInt8) (a : Addr) (ht : a.typ = h0.toNat / 16) (hn : a.net = h0.toNat % 16) :
    header a = h0 := by
  have := h0.toNat_lt
  rw [header_eq a (by omega) (by omega), ht, hn, Nat.div_add_mod', UInt8.ofNat_toNat]

/-- the pointer types are 4 and 5, both with a payment part -/
theorem stakeKind_two (t : Nat) (h : stakeKind t = 2) : payKind t ≠ 2 := by
  grind [stakeKind, payKind]

/-- **bytes ∘ parse = id** on accepted bytes, given minimal pointer varints (pointer types only;
    every other type unconditionally). -/
theorem bytes_parse (wl : List Bytes) (b : Bytes) (a : Addr) (h : parse wl b = .ok a)
    (hm : ∀ h0 rest, b = h0 :: rest → stakeKind (h0.toNat / 16) = 2 → MinimalVars 3 (rest.drop 28)) :
    bytes a = b := by
  obtain ⟨h0, rest, rfl, hp⟩ := parse_ok h
  obtain ⟨r1, hpay, hstake⟩ := hp.parts
  obtain ⟨e1, e1'⟩ := parsePay_inv _ _ _ _ hpay
  have e2 := parseStake_inv _ _ _ _ hstake (fun hk => by
    rw [e1' (stakeKind_two _ hk)]; exact hm h0 rest rfl (hp.typ ▸ hk))
  rw [bytes, header_inv h0 a hp.typ hp.net, List.append_assoc, e2, e1]

/-- Non-vacuity: minimal pointer bytes at the varint boundaries satisfy the hypothesis. -/
example : MinimalVars 3 [0x81, 0xff, 0xff, 0xff, 0xff, 0xff, 0xff, 0xff, 0xff, 0x7f, 0x81, 0x00, 0x00] := by
  refine ⟨by simp [noLeadZero], _, _, rfl, by decide, by simp [noLeadZero], _, _, rfl, by decide, by simp [noLeadZero], _, _, rfl, by decide, trivial⟩

theorem newAddress_bech32 {wl : List Bytes} {crc : Bytes → Nat} {p : TextPrims} {h : String} {d : Bytes}
    (hb : p.bech32 = some (h, d)) :
    match newAddress wl crc p with
    | .shelley a => lower h = lower (hrp a) ∧ parse wl d = .ok a
    | .byron r => r = .unsupported
    | .err _ => True := by
  unfold newAddress
  by_cases hc : p.convFail = true
  · rw [if_pos hc]; trivial
  rw [if_neg hc, hb]
  cases d with
  | nil => trivial
  | cons b0 t =>
    simp only
    by_cases h8 : b0.toNat / 16 = 8
    · rw [if_pos h8]
      cases parseByron crc (b0 :: t) with
      | ok _ => trivial
      | err e => trivial
      | unsupported => rfl
    · rw [if_neg h8]
      cases hp : parse wl (b0 :: t) with
      | error e => trivial
      | ok a =>
        simp only
        by_cases hl : lower h = lower (hrp a)
        · rw [if_pos hl]; exact ⟨hl, rfl⟩
        · rw [if_neg hl]; trivial

/-- Text parsing never accepts a bech32 prefix that does not match the address, and never
    accepts Byron bytes under bech32. -/
theorem hrp_must_match (wl : List Bytes) (crc : Bytes → Nat) (p : TextPrims) (h : String) (d : Bytes)
    (hb : p.bech32 = some (h, d)) (a : Addr) (hr : newAddress wl crc p = .shelley a) :
    lower h = lower (hrp a) ∧ parse wl d = .ok a := by
  have := newAddress_bech32 (wl := wl) (crc := crc) hb
  rwa [hr] at this

theorem bech32_never_byron (wl : List Bytes) (crc : Bytes → Nat) (p : TextPrims) (h : String) (d : Bytes)
    (hb : p.bech32 = some (h, d)) (r : ByronAddr) :
    newAddress wl crc p ≠ .byron (.ok r) := by
  intro hr
  have := newAddress_bech32 (wl := wl) (crc := crc) hb
  -- on a Byron result the match says `.ok r = .unsupported`
  rw [hr] at this
  cases this

theorem newAddress_shelley {wl : List Bytes} {crc : Bytes → Nat} {p : TextPrims} {h : String} {d : Bytes}
    {a : Addr} (hb : p.bech32 = some (h, d)) (hc : p.convFail = false) (hp : parse wl d = .ok a)
    (hl : lower h = lower (hrp a)) : newAddress wl crc p = .shelley a := by
  obtain ⟨h0, rest, rfl, ha⟩ := parse_ok hp
  unfold newAddress
  simp only [hc, hb, Bool.false_eq_true, ↓reduceIte, if_neg (ha.typ ▸ ha.ne8), hp, hl]

theorem tagContent_not_ok (r : Bytes) (a : ByronAddr) : tagContent r ≠ Sum.inl (ByronRes.ok a) := by
  unfold tagContent
  repeat' split
  all_goals (intro h; cases h)

theorem payload_hash_len (p : Bytes) (a : ByronAddr) (h : parsePayload p = .ok a) :
    a.hash.length = 28 := by
  revert h
  fun_cases parsePayload p <;> intro h <;> cases h
  -- the three accepting branches all lie behind the length test
  all_goals exact Decidable.not_not.mp ‹_›

/-- Byron: an accepted address carries the CRC-32 of its payload and the tag number 24. -/
theorem byron_crc_checked (crc : Bytes → Nat) (b : Bytes) (a : ByronAddr)
    (h : parseByron crc b = .ok a) :
    ∃ r0 r1 payload r2, readHead b = some (4, .val 2, r0) ∧ readHead r0 = some (6, .val 24, r1) ∧
      tagContent r1 = .inr (payload, r2) ∧ readUint r2 = some (crc payload, []) ∧
      parsePayload payload = .ok a := by
  revert h
  fun_cases parseByron crc b <;> intro h
  -- `tagContent r1 = .inl e`: the result is `e`, which is never `.ok`
  case case1 e htc => exact absurd (h ▸ htc) (tagContent_not_ok _ _)
  -- every test passed: the result is `parsePayload payload`
  case case7 r0 hr0 tag r1 hr1 payload r2 htc chk r3 hu _ hr3 htag hchk =>
    rw [Decidable.not_not] at hr3 htag hchk
    subst hr3 htag hchk
    exact ⟨r0, r1, payload, r2, hr0, hr1, htc, hu, h⟩
  -- every other leaf is a constant `.err _` or `.unsupported`
  all_goals cases h

/-- Byron: an accepted address has a 28-byte root. -/
theorem byron_hash_len (crc : Bytes → Nat) (b : Bytes) (a : ByronAddr)
    (h : parseByron crc b = .ok a) : a.hash.length = 28 := by
  obtain ⟨_, _, payload, _, _, _, _, _, hp⟩ := byron_crc_checked crc b a h
  exact payload_hash_len payload a hp

section ByronRT
open GV.Proofs.CborLite (readHead_head readBytes_enc readUint_head head_length)
-- Unqualified `two64` is `GV.Model.Address.two64`; the CborLite lemmas are stated with their own
-- `GV.Proofs.CborLite.two64` (the same number), written out in full below.

theorem head_len_bounds (m n : Nat) : 1 ≤ (head m n).length ∧ (head m n).length ≤ 9 := by
  rw [head_length]; grind

theorem head_len_le (m n : Nat) : (head m n).length ≤ 9 := (head_len_bounds m n).2

theorem head_ne_nil (m n : Nat) : (head m n).isEmpty = false := by
  rw [List.isEmpty_eq_false_iff, ← List.length_pos_iff]; exact (head_len_bounds m n).1

theorem lt_two64_of_lt_two32 {n : Nat} (h : n < 4294967296) : n < GV.Proofs.CborLite.two64 :=
  Nat.lt_trans h (by decide)

theorem readUint_head_only (n : Nat) (hn : n < GV.Proofs.CborLite.two64) :
    readUint (head 0 n) = some (n, []) :=
  List.append_nil (head 0 n) ▸ readUint_head n hn []

/-- a well-formed Byron address value: 28-byte root, attribute payload and sizes within CBOR /
    uint32 limits -/
def ByronValid (a : ByronAddr) : Prop :=
  a.hash.length = 28 ∧ a.attrPayload.length < 4294967296 ∧
  (∀ n, a.network = some n → n < 4294967296) ∧ a.btype < GV.Proofs.CborLite.two64

theorem readAttrs_entry (k key : Nat) (v rest : Bytes) (hkey : key < GV.Proofs.CborLite.two64)
    (hv : v.length < GV.Proofs.CborLite.two64) :
    readAttrs (k + 1) (head 0 key ++ (encBytes v ++ rest)) =
      (readAttrs k rest).bind fun (p, n, r3) =>
        if key = 1 then some (v, n, r3) else if key = 2 then some (p, some v, r3) else none := by
  simp only [readAttrs, readUint_head key hkey, readBytes_enc _ hv]
  cases readAttrs k rest <;> rfl

theorem encAttrs_read (a : ByronAddr) (hv : ByronValid a) (rest : Bytes) :
    ∃ cnt body, encAttrs a = head 5 cnt ++ body ∧ cnt < GV.Proofs.CborLite.two64 ∧
      readAttrs cnt (body ++ rest) = some (a.attrPayload, a.network.map (fun n => head 0 n), rest) := by
  obtain ⟨_, hap, _, _⟩ := hv
  have hapl := lt_two64_of_lt_two32 hap
  have hnl : ∀ n, (head 0 n).length < GV.Proofs.CborLite.two64 := fun n =>
    lt_two64_of_lt_two32 (Nat.lt_of_le_of_lt (head_len_le 0 n) (by decide))
  cases hn : a.network with
  | none =>
    by_cases he : a.attrPayload.isEmpty = true
    · have e0 : a.attrPayload = [] := List.isEmpty_iff.mp he
      refine ⟨0, [], ?_, by decide, ?_⟩
      · simp [encAttrs, hn, he]
      · simp [readAttrs, e0]
    · refine ⟨1, head 0 1 ++ encBytes a.attrPayload, ?_, by decide, ?_⟩
      · simp [encAttrs, hn, he]; rfl
      · rw [List.append_assoc, readAttrs_entry 0 1 _ _ (by decide) hapl]; rfl
  | some n =>
    by_cases he : a.attrPayload.isEmpty = true
    · have e0 : a.attrPayload = [] := List.isEmpty_iff.mp he
      refine ⟨1, head 0 2 ++ encBytes (head 0 n), ?_, by decide, ?_⟩
      · simp [encAttrs, hn, he]; rfl
      · rw [List.append_assoc, readAttrs_entry 0 2 _ _ (by decide) (hnl n), e0]; rfl
    · refine ⟨2, head 0 1 ++ encBytes a.attrPayload ++ (head 0 2 ++ encBytes (head 0 n)), ?_, by decide, ?_⟩
      · simp [encAttrs, hn, he]; rfl
      · rw [List.append_assoc, List.append_assoc, List.append_assoc,
          readAttrs_entry 1 1 _ _ (by decide) hapl, readAttrs_entry 0 2 _ _ (by decide) (hnl n)]; rfl

theorem byron_payload_roundtrip (a : ByronAddr) (hv : ByronValid a) :
    parsePayload (byronPayload a) = .ok a := by
  obtain ⟨cnt, body, hea, hcnt, hra⟩ := encAttrs_read a hv (head 0 a.btype)
  obtain ⟨hh, hap, hnet, hbt⟩ := hv
  have h83 : ([0x83] : Bytes) = head 4 3 := rfl
  unfold parsePayload byronPayload
  simp only [hea, h83, List.append_assoc, readHead_head 4 3 (by decide) (by decide),
    readBytes_enc _ (show a.hash.length < _ by rw [hh]; decide), readHead_head 5 _ (by decide) hcnt,
    hra, readUint_head_only _ hbt, hh, ne_eq, not_true_eq_false, ↓reduceIte]
  cases hn : a.network with
  | none => simp only [Option.map_none]; rw [← hn]
  | some n =>
    have hn32 := hnet n hn
    simp only [Option.map_some, head_ne_nil, Bool.false_eq_true, ↓reduceIte,
      readUint_head_only n (lt_two64_of_lt_two32 hn32), ge_iff_le, Nat.not_le.mpr hn32]
    rw [← hn]

theorem encBytes_len_le (x : Bytes) : (encBytes x).length ≤ 9 + x.length := by
  unfold encBytes
  have := head_len_le 2 x.length
  simp only [List.length_append]; omega

theorem encAttrs_len_le (a : ByronAddr) : (encAttrs a).length ≤ 50 + a.attrPayload.length := by
  have h1 : (if a.attrPayload.isEmpty then ([] : Bytes) else [0x01] ++ encBytes a.attrPayload).length ≤
      10 + a.attrPayload.length := by
    have := encBytes_len_le a.attrPayload
    split <;> simp only [List.length_nil, List.length_append, List.length_cons] <;> omega
  have h2 : (match a.network with
      | none => ([] : Bytes)
      | some n => [0x02] ++ encBytes (head 0 n)).length ≤ 19 := by
    split
    · exact Nat.zero_le _
    · rename_i n _
      have := encBytes_len_le (head 0 n)
      have := head_len_le 0 n
      simp only [List.length_append, List.length_cons, List.length_nil]; omega
  unfold encAttrs
  simp only [List.length_append]
  exact Nat.le_trans (Nat.add_le_add (Nat.add_le_add (head_len_le 5 _) h1) h2) (by omega)

theorem byronPayload_len (a : ByronAddr) (hv : ByronValid a) :
    (byronPayload a).length < GV.Proofs.CborLite.two64 := by
  obtain ⟨hh, hap, _, _⟩ := hv
  unfold byronPayload
  have l1 := encBytes_len_le a.hash
  have l2 := encAttrs_len_le a
  have l3 := head_len_le 0 a.btype
  simp only [List.length_append, List.length_cons, List.length_nil]
  unfold GV.Proofs.CborLite.two64
  omega

/-- the outer frame `[tag 24 (payload), checksum]` as the encoder writes it, under any 32-bit checksum -/
theorem parseByron_frame (crc : Bytes → Nat) (p : Bytes) (hp : p.length < GV.Proofs.CborLite.two64)
    (chk : Nat) (h32 : chk < 4294967296) :
    parseByron crc ([0x82, 0xd8, 0x18] ++ encBytes p ++ head 0 chk) =
      if chk ≠ crc p then .err .byronCrc else parsePayload p := by
  have h82 : ([0x82, 0xd8, 0x18] : Bytes) = head 4 2 ++ head 6 24 := rfl
  have htc : tagContent (encBytes p ++ head 0 chk) = .inr (p, head 0 chk) := by
    unfold tagContent encBytes
    rw [List.append_assoc, readHead_head 2 _ (by decide) hp]
    simp [List.take_left' rfl, List.drop_left' rfl]
  unfold parseByron
  simp only [h82, List.append_assoc, readHead_head 4 2 (by decide) (by decide),
    readHead_head 6 24 (by decide) (by decide), htc, readUint_head_only chk (lt_two64_of_lt_two32 h32), ge_iff_le,
    Nat.not_le.mpr h32, ↓reduceIte, ne_eq, not_true_eq_false]

/-- **Byron round trip**: parsing the bytes of a Byron address gives the address back, for every
    CRC function with 32-bit results (`crc32.ChecksumIEEE` is a primitive). -/
theorem byron_roundtrip (crc : Bytes → Nat) (hcrc : ∀ p, crc p < 4294967296) (a : ByronAddr)
    (hv : ByronValid a) : parseByron crc (byronBytes crc a) = .ok a := by
  rw [byronBytes, parseByron_frame crc _ (byronPayload_len a hv) _ (hcrc _), if_neg (by simp),
    byron_payload_roundtrip a hv]

/-- **Bad checksum is rejected**: the same bytes with any other 32-bit checksum. -/
theorem byron_bad_crc_rejected (crc : Bytes → Nat) (a : ByronAddr) (hv : ByronValid a) (chk : Nat)
    (h32 : chk < 4294967296) (hne : chk ≠ crc (byronPayload a)) :
    parseByron crc ([0x82, 0xd8, 0x18] ++ encBytes (byronPayload a) ++ head 0 chk) = .err .byronCrc := by
  rw [parseByron_frame crc _ (byronPayload_len a hv) chk h32, if_pos hne]

end ByronRT

/-- **bech32 round trip.**  `String()` is the bech32 encoding (a primitive, not modelled) of `hrp a`
    and `bytes a`; the law of the codec — decoding that string yields `(hrp a, bytes a)` — is the
    hypothesis `hlaw` on the primitive results for the string.  Then `NewAddress (String a) = a` for every valid address. -/
theorem text_roundtrip (wl : List Bytes) (crc : Bytes → Nat) (a : Addr) (hv : Valid wl a)
    (p : TextPrims) (hlaw : p.bech32 = some (hrp a, bytes a)) (hconv : p.convFail = false) :
    newAddress wl crc p = .shelley a :=
  newAddress_shelley hlaw hconv (parse_bytes wl a hv) rfl

/-- **base58 round trip for Byron.**  `String()` is the base58 encoding (a primitive, not modelled) of
    `byronBytes a`; laws of the codec as hypotheses: the string is not bech32 (`h1`, `h2`), has no Shelley
    prefix (`h3`), and base58 decoding gives the encoded bytes back (`hlaw`). -/
theorem byron_text_roundtrip (wl : List Bytes) (crc : Bytes → Nat) (hcrc : ∀ p, crc p < 4294967296)
    (a : ByronAddr) (hv : ByronValid a) (p : TextPrims)
    (h1 : p.bech32 = none) (h2 : p.convFail = false) (h3 : p.shelleyPrefix = false)
    (hlaw : p.base58 = byronBytes crc a) :
    newAddress wl crc p = .byron (.ok a) := by
  -- `byronBytes` begins with the array head 0x82, whose type nibble is 8
  obtain ⟨t, ht⟩ : ∃ t, p.base58 = 0x82 :: t := ⟨_, hlaw⟩
  have h8 : (0x82 : UInt8).toNat / 16 = 8 := by decide
  -- goal: `newAddress wl crc p = .byron (parseByron crc p.base58)`
  rw [← byron_roundtrip crc hcrc a hv, ← hlaw]
  simp only [newAddress, h2, h1, h3, ht, List.isEmpty_cons, Bool.false_eq_true, ↓reduceIte, h8]

end GV.Props.C05
