import GV.Proofs.CborRun
/-
  The two CBOR libraries of the framework agree: whatever the tree decoder `GV.CborT.decode`
  (tree layer, GV.Lib.CborTree) accepts, the byte-level stack machine `GV.Cbor.wfItem` (byte
  layer, GV.Lib.CborBytes) accepts with the same length (`decode_imp_wfItem`).

  Proof: below any stack of open frames the machine accepts `enc t ++ r`, for a valid annotated
  tree `t`, exactly when it accepts on `r` what the frames expect after one more item (`follows`,
  structural recursion over the tree, each node by the equivalence of GV.Proofs.CborRun for
  its head); then `decode_sound`.
-/
namespace GV.Proofs.CborLibs
open GV.CborT
open GV.Cbor (Frame Stack isStrFrame)
-- the namespace of GV.Proofs.CborRun; its `Acc` is hidden, the bare name being also core's `Acc`
open GV.Proofs.CborLibsConv hiding Acc

def Follows (t : Cbor) : Prop :=
  ∀ (st : Stack), isStrFrame st.head? = false → ∀ (r : Bytes) (p n : Nat),
    CborLibsConv.Acc (enc t ++ r) p st n ↔ Cont st r (p + (enc t).length) n

theorem run_chunks (k : Nat) (hk : k < 8) : ∀ (cs : List (W × Bytes)), chunksValid cs = true →
    ∀ (st : Stack) (r : Bytes) (p n : Nat),
      CborLibsConv.Acc (encChunks k cs ++ 0xff :: r) p (.indefStr k :: st) n ↔
        Cont st r (p + (encChunks k cs).length + 1) n
  | [], _, st, r, p, n => (acc_break r p _ n).trans (and_iff_right rfl)
  | (w, b) :: cs, hv, st, r, p, n => by
    simp only [chunksValid, Bool.and_eq_true] at hv
    rw [encChunks, List.append_assoc, List.append_assoc, acc_chunk _ p n hk hv.1, List.drop_left,
      run_chunks k hk cs hv.2]
    -- the chunk has the frame's major type, its payload is all there, and the positions agree
    have hlen : b.length ≤ (b ++ (encChunks k cs ++ 0xff :: r)).length := by simp
    exact (and_iff_right rfl).trans ((and_iff_right hlen).trans (cont_pos (by simp [head_length]; omega)))

mutual
theorem run_defn : ∀ (xs : List Cbor), validL xs = true → ∀ (st : Stack) (r : Bytes) (p n : Nat),
    Cont (.defn (xs.length + 1) :: st) (encL xs ++ r) p n ↔ Cont st r (p + (encL xs).length) n
  | [], _, st, r, p, n => by rw [List.length_nil, cont_defn_one]; rfl
  | x :: xs, hv, st, r, p, n => by
    simp only [validL, Bool.and_eq_true] at hv
    rw [List.length_cons, cont_defn_succ, encL, List.append_assoc, follows x hv.1 _ rfl,
      run_defn xs hv.2, List.length_append, Nat.add_assoc]
theorem run_arrI : ∀ (xs : List Cbor), validL xs = true → ∀ (st : Stack) (r : Bytes) (p n : Nat),
    CborLibsConv.Acc (encL xs ++ 0xff :: r) p (.indefArr :: st) n ↔ Cont st r (p + (encL xs).length + 1) n
  | [], _, st, r, p, n => (acc_break r p _ n).trans (and_iff_right rfl)
  | x :: xs, hv, st, r, p, n => by
    simp only [validL, Bool.and_eq_true] at hv
    rw [encL, List.append_assoc, follows x hv.1 _ rfl]
    exact (run_arrI xs hv.2 st r _ n).trans (cont_pos (by rw [List.length_append]; omega))
theorem run_mapI : ∀ (xs : List Cbor) (odd : Bool), validL xs = true →
    xs.length % 2 = (if odd then 1 else 0) → ∀ (st : Stack) (r : Bytes) (p n : Nat),
      CborLibsConv.Acc (encL xs ++ 0xff :: r) p (.indefMap odd :: st) n ↔ Cont st r (p + (encL xs).length + 1) n
  | [], odd, _, hp, st, r, p, n => by
    cases odd with
    | true => simp at hp
    | false => exact (acc_break r p _ n).trans (and_iff_right rfl)
  | x :: xs, odd, hv, hp, st, r, p, n => by
    simp only [validL, Bool.and_eq_true] at hv
    rw [encL, List.append_assoc, follows x hv.1 _ rfl]
    exact (run_mapI xs (!odd) hv.2 (by cases odd <;> simp_all <;> omega) st r _ n).trans
      (cont_pos (by rw [List.length_append]; omega))
theorem follows : ∀ (t : Cbor), t.valid = true → Follows t
  | .int neg w v, hv => fun st hs r p n => by
    rw [enc, acc_int r p n (by cases neg <;> decide) hv hs, head_length]
  | .str txt w b, hv => fun st hs r p n => by
    rw [enc, List.append_assoc, acc_str _ p n (by cases txt <;> simp [strMajor]) hv hs, List.drop_left]
    have hlen : b.length ≤ (b ++ r).length := by simp
    exact (and_iff_right hlen).trans (cont_pos (by simp [head_length]))
  | .prim w v, hv => fun st hs r p n => by
    rw [enc, acc_prim r p n (primFits_fits hv) hs, head_length]
    exact and_iff_right hv
  | .strI txt cs, hv => fun st hs r p n => by
    have hp : p + 1 + (encChunks (strMajor txt) cs).length + 1 = p + (enc (.strI txt cs)).length := by
      simp [enc]; omega
    rw [← hp, ← run_chunks _ (strMajor_lt txt) cs hv, enc, List.cons_append, List.append_assoc]
    cases txt
    · exact acc_open (m := 2) _ p n (by decide) hs
    · exact acc_open (m := 3) _ p n (by decide) hs
  | .arr w xs, hv => fun st hs r p n => by
    simp only [Cbor.valid, Bool.and_eq_true] at hv
    rw [enc, List.append_assoc, acc_arr _ p n hv.1 hs, run_defn xs hv.2, List.length_append,
      head_length, Nat.add_assoc]
  | .arrI xs, hv => fun st hs r p n => by
    have hp : p + 1 + (encL xs).length + 1 = p + (enc (.arrI xs)).length := by simp [enc]; omega
    rw [← hp, enc, List.cons_append, List.append_assoc]
    exact (acc_open (m := 4) _ p n (by decide) hs).trans (run_arrI xs hv st r _ n)
  | .map w xs, hv => fun st hs r p n => by
    simp only [Cbor.valid, Bool.and_eq_true, decide_eq_true_eq] at hv
    rw [enc, List.append_assoc, acc_map _ p n hv.1.2 hs, show 2 * (xs.length / 2) = xs.length by omega,
      run_defn xs hv.2, List.length_append, head_length, Nat.add_assoc]
  | .mapI xs, hv => fun st hs r p n => by
    simp only [Cbor.valid, Bool.and_eq_true, decide_eq_true_eq] at hv
    have hp : p + 1 + (encL xs).length + 1 = p + (enc (.mapI xs)).length := by simp [enc]; omega
    rw [← hp, enc, List.cons_append, List.append_assoc]
    exact (acc_open (m := 5) _ p n (by decide) hs).trans
      (run_mapI xs false hv.2 (by simpa using hv.1) st r _ n)
  | .tag w v x, hv => fun st hs r p n => by
    simp only [Cbor.valid, Bool.and_eq_true] at hv
    rw [enc, List.append_assoc, acc_tag _ p n hv.1 hs, follows x hv.2 _ rfl, cont_defn_one, List.length_append,
      head_length, Nat.add_assoc]
end

theorem wfItem_enc (t : Cbor) (hv : t.valid = true) (rest : Bytes) :
    GV.Cbor.wfItem (enc t ++ rest) = .ok (enc t).length := by
  rw [GV.Cbor.wfItem_eq]
  exact (follows t hv [] rfl rest 0 _).mpr (Nat.zero_add _).symm

theorem decode_imp_wfItem {b : Bytes} {t : Cbor} {r : Bytes} (h : decode b = some (t, r)) :
    GV.Cbor.wfItem b = .ok (b.length - r.length) := by
  obtain ⟨hb, hv⟩ := decode_sound h
  have := wfItem_enc t hv r
  rw [← hb] at this
  rw [this, hb, List.length_append]
  congr 1; omega

theorem decode_imp_prefix_incomplete {b : Bytes} {t : Cbor} {r : Bytes} (h : decode b = some (t, r))
    {k : Nat} (hk : k < b.length - r.length) : GV.Cbor.wfItem (b.take k) = .needMore :=
  GV.Cbor.wf_prefix (decode_imp_wfItem h) hk

theorem wfItem_reject_imp_decode_none {b : Bytes} (h : ∀ n, GV.Cbor.wfItem b ≠ .ok n) : decode b = none := by
  cases hd : decode b with
  | none => rfl
  | some p =>
    obtain ⟨t, r⟩ := p
    exact absurd (decode_imp_wfItem hd) (h _)

theorem needMore_imp_decode_none {b : Bytes} (h : GV.Cbor.wfItem b = .needMore) : decode b = none :=
  wfItem_reject_imp_decode_none (fun n hn => by rw [h] at hn; cases hn)

theorem bad_imp_decode_none {b : Bytes} (h : GV.Cbor.wfItem b = .bad) : decode b = none :=
  wfItem_reject_imp_decode_none (fun n hn => by rw [h] at hn; cases hn)

/-- non-vacuity: `[_ 1, h'aa']` followed by a stray byte -/
example : GV.Cbor.wfItem [0x9f, 0x01, 0x41, 0xaa, 0xff, 0x00] = .ok 5 :=
  wfItem_enc (.arrI [.int false .w0 1, .str false .w0 [0xaa]]) (by decide) [0x00]

end GV.Proofs.CborLibs
