import GV.Gen.CborFast
import GV.Model.CborId
import GV.Model.Walkers
/-
  Regenerated tie (R) for C03 / C02: the conditions of the fast paths of
  cbor.ListLength / cbor.DecodeIdFromList and the guards of
  StreamDecoder.RawBytes, translated from the Go source on every run
  (GV.Gen.CborFast), are equivalent to the conditions the hand models use.
  A one-token edit of such a condition in cbor/decode.go breaks a theorem here.
  For `RawBytes` the comparison is with the model itself (`rawBytes_reject_iff`). For the fast
  paths it is with the conditions written out here; that these are the conditions of
  `GV.Model.CborId` is displayed by `listLength_model` and `GV.Proofs.CborId.decodeId_unfold`
  (both `rfl`). `GV.Model.Walkers.listLengthFast` / `decodeIdFast` occur in no theorem here.
-/
namespace GV.Proofs.CborFastTie
open GV.Gen.CborFast GV.CborT GV.Model.CborId GV.Model.Walkers

/-- the first two bytes of the input as the Go code indexes them -/
def bytesAt (b0 b1 : UInt8) : Nat → Int := fun i => if i = 0 then (b0.toNat : Int) else (b1.toNat : Int)

theorem listLength_guard (len : Nat) : listLengthEmpty (len : Int) ↔ len = 0 := by
  unfold listLengthEmpty; omega

/-- the model's `listLength` takes its fast path exactly when the source does -/
theorem listLength_fast_cond (b0 b1 : UInt8) :
    listLengthFastCond (bytesAt b0 b1) ↔ (0x80 ≤ b0.toNat ∧ b0.toNat ≤ 0x97) := by
  unfold listLengthFastCond bytesAt
  simp only [↓reduceIte]
  omega

theorem listLength_fast_val (b0 b1 : UInt8) (h : 0x80 ≤ b0.toNat) :
    listLengthFastVal (bytesAt b0 b1) = ((b0.toNat - 0x80 : Nat) : Int) := by
  unfold listLengthFastVal bytesAt
  simp only [↓reduceIte]
  omega

theorem listLength_model (b0 : UInt8) (r : Bytes) :
    listLength (b0 :: r) =
      if 0x80 ≤ b0.toNat ∧ b0.toNat ≤ 0x97 then some (b0.toNat - 0x80) else rawListLen (b0 :: r) := rfl

theorem decodeId_guards (len n : Nat) :
    (decodeIdTooShort (len : Int) ↔ len < 2) ∧ (decodeIdEmpty (n : Int) ↔ n = 0) := by
  unfold decodeIdTooShort decodeIdEmpty; omega

/-- the byte-1 shortcut of `DecodeIdFromList`: source condition = model condition
    (the model's condition is the one displayed by `GV.Proofs.CborId.decodeId_unfold`) -/
theorem decodeId_fast_cond (n : Nat) (b0 b1 : UInt8) :
    (decodeIdOuterCond (n : Int) (bytesAt b0 b1) ∧ decodeIdInnerCond (bytesAt b0 b1)) ↔
      (n < 23 ∧ (0x80 ≤ b0.toNat ∧ b0.toNat ≤ 0x97) ∧ b1.toNat ≤ 0x17) := by
  unfold decodeIdOuterCond decodeIdInnerCond bytesAt
  simp only [↓reduceIte, show ((1 : Nat) = 0) = False from by simp]
  omega

theorem decodeId_fast_val (b0 b1 : UInt8) : decodeIdFastVal (bytesAt b0 b1) = (b1.toNat : Int) := by
  unfold decodeIdFastVal bytesAt; simp

/-- `RawBytes`: the guards of the source are those of the model, `end` is the plain sum,
    and the slice expression is `data[offset:end]`. -/
theorem rawBytes_guards (offset length endv len : Int) :
    (rawBytesReject offset length endv len ↔ ((offset < 0 ∨ length < 0) ∨ (endv < offset ∨ endv > len))) ∧
    rawBytesEnd offset length = offset + length ∧
    rawBytesLo offset length endv = offset ∧ rawBytesHi offset length endv = endv := by
  unfold rawBytesReject rawBytesEnd rawBytesLo rawBytesHi
  exact ⟨Iff.rfl, rfl, rfl, rfl⟩

/-- the model of `RawBytes` returns nil exactly when one of the source's guards fires -/
theorem rawBytes_reject_iff (len offset length : Int) :
    rawBytes len offset length = .val none ↔
      rawBytesReject offset length (wrapS64 (rawBytesEnd offset length)) len := by
  unfold rawBytes rawBytesReject rawBytesEnd
  by_cases h1 : offset < 0 ∨ length < 0
  · simp [h1]
  · by_cases h2 : wrapS64 (offset + length) < offset ∨ wrapS64 (offset + length) > len
    · simp [h1, h2]
    · simp only [h1, h2, ↓reduceIte, or_self, iff_false]
      split <;> simp

end GV.Proofs.CborFastTie
