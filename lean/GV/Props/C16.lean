import GV.Spec.Conformance
/-!
  C16 — Mini-protocol state machines match the network specification.

  `GV.Gen.StateMaps` is regenerated on every check from the running code (real client /
  server constructors, the engine's own `nextState` on real message values).  The theorems
  below are about those generated definitions: a changed state map entry, agency, successor,
  match function or codec switch breaks `conforms_all` (or `covers_every_machine` when a
  protocol/mode is added or removed).
-/
namespace GV.Props.C16
open GV.SM GV.Spec.Conformance

/-- The full statement: every protocol / mode / role / version range the implementation has is
    listed with a specification automaton, and conforms to it. -/
def C16_full : Prop :=
  table.map (·.impl.name) = GV.Gen.StateMaps.all.map (·.name) ∧
  ∀ e ∈ table, conforms e = true

theorem table_impls : table.map (·.impl) = GV.Gen.StateMaps.all := rfl

/-- every generated machine (protocol × mode × role) is compared with a specification -/
theorem covers_every_machine :
    table.map (·.impl.name) = GV.Gen.StateMaps.all.map (·.name) := by
  rw [← table_impls, List.map_map]; rfl

/-- isomorphism + completeness + decodability, decided on the generated tables, for everything
    except the recorded finding (local-tx-monitor at NodeToClientV_20+) -/
theorem conforms_all : ∀ e ∈ tableOk, conforms e = true := by decide +kernel

theorem mem_tableOk {e : Entry} : e ∈ tableOk ↔ e ∈ table ∧ isV20 e = false := by
  simp [tableOk]

/-- what holds of the full statement -/
theorem C16_partial :
    table.map (·.impl.name) = GV.Gen.StateMaps.all.map (·.name) ∧
    ∀ e ∈ table, isV20 e = false → conforms e = true :=
  ⟨covers_every_machine, fun e he hv => conforms_all e (mem_tableOk.mpr ⟨he, hv⟩)⟩

/-- the recorded finding: the implementation does not conform to the NodeToClientV_20+
    local-tx-monitor — the specification accepts Acquire, Acquired, GetMeasures; the
    implementation (which negotiates versions up to 21) refuses the third message -/
theorem ltm_v20_witness :
    GV.Spec.Automata.localTxMonitorV20.accepts [⟨1, 0⟩, ⟨2, 0⟩, ⟨11, 0⟩] = true ∧
    GV.Gen.StateMaps.localtxmonitor_v20_client.accepts [⟨1, 0⟩, ⟨2, 0⟩, ⟨11, 0⟩] = false ∧
    GV.Gen.StateMaps.localtxmonitor_v20_server.accepts [⟨1, 0⟩, ⟨2, 0⟩, ⟨11, 0⟩] = false ∧
    (table.filter isV20).all (fun e => !conforms e) = true ∧ (table.filter isV20).length = 2 := by
  decide +kernel

theorem C16_full_false : ¬ C16_full := by
  intro h
  obtain ⟨hall, hlen⟩ := ltm_v20_witness.2.2.2
  -- an entry of the finding is in the table, where `h` says it conforms
  cases hf : table.filter isV20 with
  | nil => simp [hf] at hlen
  | cons e _ =>
    have he : e ∈ table.filter isV20 := hf ▸ List.mem_cons_self
    simp [hf, h.2 e (List.mem_filter.mp he).1] at hall

theorem conforms_iso {e : Entry} (h : conforms e = true) : isoCheck e.impl e.spec e.rel = true := by
  unfold conforms at h
  simp only [Bool.and_eq_true] at h
  exact h.1.1.1.1.1

/-- Language equality with the specification for traces of EVERY length, for every protocol,
    mode and role; and the states reached are paired in `e.rel` (which `isoCheck` checks to be a
    bijection of the state sets; no theorem says so). -/
theorem language_eq : ∀ e ∈ tableOk, ∀ tr : List Sym,
    e.impl.accepts tr = e.spec.accepts tr ∧
    relOut e.rel (e.impl.run e.impl.init tr) (e.spec.run e.spec.init tr) :=
  fun e he tr => iso_language_eq (conforms_iso (conforms_all e he)) tr

/-- Agency (hence also "terminal") agrees in corresponding states. -/
theorem agency_eq : ∀ e ∈ tableOk, ∀ p q, (p, q) ∈ e.rel → e.impl.agencyOf p = e.spec.agencyOf q :=
  fun e he _ _ hpq => iso_agency (conforms_iso (conforms_all e he)) hpq

/-- every message type the state machine permits is one the codec can decode — for EVERY
    generated machine (including the ones of the recorded finding); `decodable` is the set of
    types the protocol's own NewMsgFromCbor accepted when the table was regenerated -/
theorem permitted_decodable : ∀ e ∈ table, ∀ t ∈ e.impl.trans, t.sym.msg ∈ e.impl.decodable := by
  decide

/-! ### a reply is accepted only in response to the request kind it answers -/

open GV.Spec.Automata in
/-- In the specification of local-tx-monitor a `HasTx` request followed by a `ReplyNextTx`
    is refused after ANY prefix. -/
theorem spec_ltm_reply_kind (pre : List Sym) :
    localTxMonitor.accepts (pre ++ [⟨7, 0⟩, ⟨6, 0⟩]) = false := by
  unfold Machine.accepts
  rw [Machine.run_append]
  cases h : localTxMonitor.run localTxMonitor.init pre with
  | none => simp
  | some s =>
    simp only [Option.bind_some, Machine.run]
    cases h1 : localTxMonitor.step s ⟨7, 0⟩ with
    | none => simp
    | some d =>
      have hm := findTr_some_mem h1
      have hd : d = 5 := by
        have : ∀ t ∈ localTxMonitor.trans, t.sym = (⟨7, 0⟩ : Sym) → t.dst = 5 := by decide
        exact this _ hm rfl
      subst hd
      have : localTxMonitor.step 5 ⟨6, 0⟩ = none := by decide
      simp [this]

/-- … and therefore so it is in the implementation (client and server), for any prefix:
    `ReplyNextTx` is never accepted as the answer to `HasTx`. -/
theorem reply_matches_request_ltm (pre : List Sym) :
    GV.Gen.StateMaps.localtxmonitor_client.accepts (pre ++ [⟨7, 0⟩, ⟨6, 0⟩]) = false ∧
    GV.Gen.StateMaps.localtxmonitor_server.accepts (pre ++ [⟨7, 0⟩, ⟨6, 0⟩]) = false := by
  have key (impl : Machine) (hm : (⟨impl, GV.Spec.Automata.localTxMonitor, relLtm⟩ : Entry) ∈ table)
      (hv : isV20 ⟨impl, GV.Spec.Automata.localTxMonitor, relLtm⟩ = false) :
      impl.accepts (pre ++ [⟨7, 0⟩, ⟨6, 0⟩]) = false :=
    (language_eq _ (mem_tableOk.mpr ⟨hm, hv⟩) _).1.trans (spec_ltm_reply_kind pre)
  exact ⟨key _ (by simp only [table, List.mem_cons, true_or, or_true])
      (by simp [isV20, GV.Gen.StateMaps.localtxmonitor_client]),
    key _ (by simp only [table, List.mem_cons, true_or, or_true])
      (by simp [isV20, GV.Gen.StateMaps.localtxmonitor_server])⟩

/-! ### non-vacuity -/
/-- the two entries of the recorded finding are what `tableOk` leaves out -/
example : table.length = 38 ∧ tableOk.length = 36 := by
  have hl : table.length = 38 := rfl
  have h := List.length_eq_countP_add_countP isV20 (l := table)
  simp only [List.countP_eq_length_filter, ltm_v20_witness.2.2.2.2, decide_not, Bool.decide_eq_true,
    hl] at h
  exact ⟨hl, by unfold tableOk; omega⟩
example : GV.Gen.StateMaps.chainsync_ntn_client.accepts [⟨0, 0⟩, ⟨1, 0⟩, ⟨2, 0⟩, ⟨7, 0⟩] = true := by decide
example : GV.Gen.StateMaps.chainsync_ntn_client.accepts [⟨0, 0⟩, ⟨5, 0⟩] = false := by decide
/-- the checker is not trivially true: a specification with one edge changed is rejected -/
example : isoCheck GV.Gen.StateMaps.keepalive_client
    { GV.Spec.Automata.keepAlive with trans := [⟨1, ⟨0, 0⟩, 2⟩, ⟨1, ⟨2, 0⟩, 3⟩, ⟨2, ⟨1, 0⟩, 3⟩] }
    (idRel [1, 2, 3]) = false := by decide

end GV.Props.C16
