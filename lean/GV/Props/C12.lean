import GV.Proofs.Compose
import GV.Gen.StateMaps
/-!
  C12 — Outbound messages keep their order and drive the state machine in that order.

  Theorems over the abstract engine `GV.Engine` (see Props/C11.lean for what it is and how it
  is tied to the code), for every admitted event sequence.
-/
namespace GV.Props.C12
open GV.SM GV.Engine

variable {m : Machine} {role : Nat}

/-- Everything the caller queued is, in queue order and each exactly once: on the wire, or
    dequeued and waiting for its transition, or the single refused head, or still queued. -/
theorem wire_is_queue_order (evs : List Ev) {s : S} (h : run m role (init m) evs = some s) :
    s.enq = s.wire ++ s.head.toList ++ s.sendRej.toList ++ s.sendQ :=
  (inv_reachable evs h).snd.wireOrder

/-- in particular the wire is a prefix of the queue history -/
theorem wire_prefix_of_enqueued (evs : List Ev) {s : S} (h : run m role (init m) evs = some s) :
    ∃ rest, s.enq = s.wire ++ rest := by
  refine ⟨s.head.toList ++ s.sendRej.toList ++ s.sendQ, ?_⟩
  rw [wire_is_queue_order evs h]; simp [List.append_assoc]

/-- The messages that advanced the local state, followed by those written whose (pipelined)
    transition is still pending, are exactly the wire sequence: each message advances the state
    exactly once, in wire order. -/
theorem local_transitions_follow_wire (evs : List Ev) {s : S} (h : run m role (init m) evs = some s) :
    s.sendTrans ++ s.pendT = s.wire :=
  (inv_reachable evs h).snd.transWire

/-- Every outbound transition was applied in a state where WE hold agency and it was permitted;
    every inbound one where the PEER holds agency: sent and received messages interleave only
    according to agency, and the state is the run of the state machine along the interleaving. -/
theorem interleaving_respects_agency (evs : List Ev) {s : S} (h : run m role (init m) evs = some s) :
    (∀ qa ∈ s.slog, ours m role qa.1 = true ∧ (m.step qa.1 qa.2).isSome = true) ∧
    (∀ qa ∈ s.hlog, peers m role qa.1 = true ∧ (m.step qa.1 qa.2).isSome = true) ∧
    m.run m.init s.tlog = some s.st :=
  let i := (inv_reachable evs h).log
  ⟨i.slogOk, i.hlogOk, i.path⟩

/-- A message that is first in its batch and not permitted in the current state is refused
    instead of being sent: the wire is unchanged and the send loop is dead. -/
theorem first_disallowed_rejected_not_sent {s s' : S} {src t : Nat} {a : Sym}
    (hw : who s = .sHead a) (h : step? m role s (.transerr src t) = some s') :
    m.step s.st a = none ∧ s'.wire = s.wire ∧ s'.sendRej = some a ∧ s'.sendDead = true := by
  obtain ⟨hg, rfl⟩ := step_iff.mp h
  simp only [GV.Engine.guard, hw, Bool.and_eq_true, beq_iff_eq] at hg
  simp only [GV.Engine.apply, hw]
  have : m.step s.st a = none := by simpa using hg.2.1.2
  exact ⟨this, by simp⟩

/-- … and afterwards nothing more is ever written or applied on the send side. -/
theorem nothing_sent_after_refusal (evs : List Ev) {s s' : S}
    (h0 : run m role (init m) evs = some s) (hd : s.sendDead = true)
    (evs' : List Ev) (h : run m role s evs' = some s') :
    s'.wire = s.wire ∧ s'.sendTrans = s.sendTrans ∧ s'.sendDead = true :=
  inv_run (P := fun t => t.wire = s.wire ∧ t.sendTrans = s.sendTrans ∧ t.sendDead = true)
    (fun hi ⟨h1, h2, hd⟩ hs => by
      -- a dead send loop dequeues nothing and has no request out, so every event that writes one
      -- of these fields is disabled
      have hreq := hi.snd.deadS hd
      cases hs with
      | deqNext _ h => simp [hd] at h
      | transHead _ h | transQueued _ h | errHead h | errQueued h => simp [hreq] at h
      | _ => exact ⟨h1, h2, hd⟩)
    evs' (inv_reachable evs h0) ⟨rfl, rfl, hd⟩ h

/-! ### the peer accepts the whole conversation (two engines composed)

  `GV.Engine.Pair` (in Proofs/Compose.lean, with `pstep`, `prun`) is a client engine and a
  server engine running the same state machine,
  connected by two lossless FIFO streams (a `rq x` event of one side is enabled only when `x`
  is the next unread message the other side has written).  Everything else — schedules of
  all ten goroutines, what the two applications enqueue and when (pipelining of any depth) —
  is unconstrained. -/

/-- every generated machine uses only the three agency values -/
theorem gen_agency_le_two : ∀ mm ∈ GV.Gen.StateMaps.all, ∀ s ∈ mm.states, s.agency ≤ 2 := by decide

/-- **If one side refuses a message, the other side has not applied that message**: the
    sender's own check of that message (its local state transition) has not succeeded — and,
    the receiver's state being exactly the state in which the sender will check it
    (`GV.Engine.Merge.unique`), it never will.  Contrapositive: whatever the sender's engine
    accepts from its caller, the peer's engine accepts from the wire.
    How the statement says "has not applied `x`": `b.hlog` holds what `b` accepted before `x`, so
    `x` is message number `b.hlog.length` (from 0) on `a`'s wire; `a.sendTrans` holds the
    messages `a` has applied, a prefix of that wire (`local_transitions_follow_wire`). -/
theorem refused_means_sender_did_not_apply (hag : ∀ q, m.agencyOf q ≤ 2) (evs : List PEv) {p : Pair}
    (h : prun m (pinit m) evs = some p) :
    (∀ x, p.b.recvRej = some x → p.a.sendTrans.length ≤ p.b.hlog.length) ∧
    (∀ y, p.a.recvRej = some y → p.b.sendTrans.length ≤ p.a.hlog.length) := by
  have hi := pinv_reachable evs h
  constructor
  · intro x hx
    simpa using refusal_not_applied (swap12 hag) hi.ia hi.ma hi.ib hi.mb hi.cb hi.ca hx
  · intro y hy
    simpa using refusal_not_applied (swap21 hag) hi.ib hi.mb hi.ia hi.ma hi.ca hi.cb hy

/-- **When the caller uses the protocol correctly the peer accepts the whole conversation**:
    in every reachable state of the composed system in which the client engine has applied
    every message it wrote (no pipelined transition pending — `sendTrans ++ pendT = wire`), the
    server engine has refused nothing; and symmetrically.  Holds for any pipelining depth. -/
theorem conforming_accepted (hag : ∀ q, m.agencyOf q ≤ 2) (evs : List PEv) {p : Pair}
    (h : prun m (pinit m) evs = some p) :
    (p.a.pendT = [] → p.b.recvRej = none) ∧ (p.b.pendT = [] → p.a.recvRej = none) := by
  have hi := pinv_reachable evs h
  have hr := refused_means_sender_did_not_apply hag evs h
  exact ⟨accepted_of_applied hi.ia.snd hi.ib.rcv hi.cb hr.1,
    accepted_of_applied hi.ib.snd hi.ia.rcv hi.ca hr.2⟩

/-- instance for every mini-protocol of the running code -/
theorem conforming_accepted_gen : ∀ mm ∈ GV.Gen.StateMaps.all, ∀ (evs : List PEv) (p : Pair),
    prun mm (pinit mm) evs = some p →
    (p.a.pendT = [] → p.b.recvRej = none) ∧ (p.b.pendT = [] → p.a.recvRej = none) :=
  fun mm hm evs _ h => conforming_accepted (mm.agencyOf_le_two (gen_agency_le_two mm hm)) evs h

/-! ### non-vacuity: pipelining in the keep-alive client model (two messages enqueued up front;
    the second is written in the same batch and its transition is applied later) -/
def ka : Machine :=
  { name := "keep-alive", role := 1, protoId := 8, init := 1,
    states := [⟨1, "Client", 1, 0, false, 0, 0, 0⟩, ⟨2, "Server", 2, 0, false, 0, 0, 0⟩, ⟨3, "Done", 0, 0, false, 0, 0, 0⟩],
    alphabet := [⟨0, 0⟩, ⟨1, 0⟩, ⟨2, 0⟩],
    trans := [⟨1, ⟨0, 0⟩, 2⟩, ⟨1, ⟨2, 0⟩, 3⟩, ⟨2, ⟨1, 0⟩, 1⟩] }

def pipelined : List Ev :=
  [.state 1 true, .enq ⟨0, 0⟩, .enq ⟨2, 0⟩, .stok, .deq ⟨0, 0⟩ 1, .strans ⟨0, 0⟩ false, .trans 1 2 0,
   .deq ⟨2, 0⟩ 2, .seg, .rq ⟨1, 0⟩, .rtok, .rtrans ⟨1, 0⟩, .trans 2 1 1, .handle 1,
   .stok, .strans ⟨2, 0⟩ true, .trans 1 3 2]

example : ((run ka 1 (init ka) pipelined).map (fun s => (s.wire, s.sendTrans, s.pendT, s.st))) =
    some ([⟨0, 0⟩, ⟨2, 0⟩], [⟨0, 0⟩, ⟨2, 0⟩], [], 3) := by decide
/-- a refused head is not written -/
example : ((run ka 1 (init ka)
    [.state 1 true, .enq ⟨1, 0⟩, .stok, .deq ⟨1, 0⟩ 1, .strans ⟨1, 0⟩ false, .transerr 1 1]).map
      (fun s => (s.wire, s.sendDead))) = some ([], true) := by decide
/-- the model does not admit a send transition without the token -/
example : (run ka 1 (init ka) [.state 1 true, .enq ⟨0, 0⟩, .deq ⟨0, 0⟩ 1]).isNone = true := by decide

/-- the composed system is not vacuous: client sends KeepAlive, server reads and handles it -/
example : ((prun ka (pinit ka)
    [.A (.state 1 true), .B (.state 1 true), .A (.enq ⟨0, 0⟩), .A .stok, .A (.deq ⟨0, 0⟩ 1),
     .A (.strans ⟨0, 0⟩ false), .A (.trans 1 2 0), .A .seg,
     .B (.rq ⟨0, 0⟩), .B .rtok, .B (.rtrans ⟨0, 0⟩), .B (.trans 1 2 0), .B (.handle 0)]).map
      (fun p => (p.b.handled, p.b.st))) = some ([⟨0, 0⟩], 2) := by decide
/-- a message the client has not written cannot be read by the server -/
example : (prun ka (pinit ka) [.A (.state 1 true), .B (.state 1 true), .B (.rq ⟨0, 0⟩)]).isNone = true := by decide

end GV.Props.C12
