import GV.Model.Walkers
/-!
  The hand-rolled byte walkers of cbor/decode.go (GV.Model.Walkers) never read outside their
  slice (`*_no_oob`), `RawBytes` returns the range it was asked for, and no length or count
  claimed inside an encoded tree exceeds the length of the encoding (`maxClaim_le`).
-/
namespace GV.Proofs.Walkers
open GV.CborT GV.Model.Walkers

theorem rd_ok (b : Bytes) (i : Nat) (h : i < b.length) : ∃ v, rd b i = .val v := by
  unfold rd
  rw [List.getElem?_eq_getElem h]
  exact ⟨_, rfl⟩

theorem rdN_ok (b : Bytes) (i k : Nat) (h : i + k ≤ b.length) : ∃ v, rdN b i k = .val v := by
  induction k with
  | zero => exact ⟨0, rfl⟩
  | succ k ih =>
    obtain ⟨hi, hhi⟩ := ih (by omega)
    obtain ⟨lo, hlo⟩ := rd_ok b (i + k) (by omega)
    exact ⟨hi * 256 + lo, by simp [rdN, hhi, hlo]⟩

theorem rd_oob {b : Bytes} {i : Nat} (h : rd b i = .oob) : b.length ≤ i := by
  apply Nat.le_of_not_lt
  intro hi
  obtain ⟨v, hv⟩ := rd_ok b i hi
  rw [hv] at h; cases h

theorem rdN_oob {b : Bytes} {i n : Nat} (h : rdN b i n = .oob) : b.length < i + n := by
  apply Nat.lt_of_not_le
  intro hi
  obtain ⟨v, hv⟩ := rdN_ok b i n hi
  rw [hv] at h; cases h

/- The walkers never answer `oob` because every read stands behind a length test that excludes
   `rd_oob` / `rdN_oob`. -/
theorem infoOf_no_oob (major : Nat) (b : Bytes) : infoOf major b ≠ .oob := by
  grind [infoOf, → rd_oob, → rdN_oob]

theorem headerAt_no_oob (major : Nat) (b : Bytes) (pos : Nat) : headerAt major b pos ≠ .oob := by
  grind [headerAt, → rd_oob, → rdN_oob]

theorem headerSizeAt_no_oob (b : Bytes) (offset : Nat) : headerSizeAt b offset ≠ .oob := by
  grind [headerSizeAt, → rd_oob]

theorem listLengthFast_no_oob (b : Bytes) : listLengthFast b ≠ .oob := by
  grind [listLengthFast, → rd_oob]

theorem decodeIdFast_no_oob (b : Bytes) (n : Nat) : decodeIdFast b n ≠ .oob := by
  grind [decodeIdFast, → rd_oob, cases Out]

theorem encChunks_ge_chunkMax (m : Nat) (cs : List (W × Bytes)) : chunkMax cs ≤ (encChunks m cs).length := by
  induction cs with
  | nil => simp [chunkMax]
  | cons c cs ih =>
    obtain ⟨w, b⟩ := c
    simp only [chunkMax, encChunks, List.length_append]
    omega

mutual
theorem maxClaim_le : ∀ t : Cbor, maxClaim t ≤ (enc t).length
  | .int _ _ _ | .prim _ _ => by simp [maxClaim]
  | .str _ w b => by simp [maxClaim, enc]
  | .strI txt cs => by
    have := encChunks_ge_chunkMax (strMajor txt) cs
    simp [maxClaim, enc]; omega
  | .arr w xs | .map w xs | .arrI xs | .mapI xs => by
    have h1 := length_maxClaimL_le xs
    simp only [maxClaim, enc, List.length_cons, List.length_append]; omega
  | .tag w n x => by
    have h1 := maxClaim_le x
    simp only [maxClaim, enc, List.length_append]; omega
theorem length_maxClaimL_le : ∀ xs : List Cbor, max xs.length (maxClaimL xs) ≤ (encL xs).length
  | [] => by simp [maxClaimL]
  | x :: xs => by
    have h1 := maxClaim_le x; have h2 := length_maxClaimL_le xs; have h3 := enc_length_pos x
    simp only [maxClaimL, encL, List.length_append, List.length_cons]; omega
end

theorem maxClaimL_le : ∀ xs : List Cbor, maxClaimL xs ≤ (encL xs).length :=
  fun xs => Nat.le_trans (Nat.le_max_right _ _) (length_maxClaimL_le xs)


/-- The last test of `rawBytes` follows from the two guards before it, whatever `endv` is. -/
theorem rawBytes_no_oob (len offset length : Int) : rawBytes len offset length ≠ .oob := by
  grind [rawBytes]

theorem rawBytes_exact (len offset length : Int) (ho : isInt64 offset) (hl : isInt64 length)
    (lo hi : Int) (h : rawBytes len offset length = .val (some (lo, hi))) :
    lo = offset ∧ hi = offset + length ∧ 0 ≤ lo ∧ hi ≤ len := by
  revert h
  fun_cases rawBytes len offset length
  -- the one answer with bounds: no argument is negative (h1) and the last guard (h3) holds
  case case3 h1 endv _ h3 =>
    intro h
    obtain ⟨rfl, rfl⟩ : offset = lo ∧ endv = hi := by simpa using h
    -- a sum of two non-negative int64 that wrapped would be negative, below `offset`: h3 excludes it
    refine ⟨rfl, ?_, h3.1, h3.2.2⟩
    unfold isInt64 two63 at ho hl
    unfold endv wrapS64 two63 two64 at *
    omega
  -- `nil` twice, and the slice out of range
  all_goals intro h; cases h

theorem collectionHeaderAt_no_oob (b : Bytes) (offset : Nat) : collectionHeaderAt b offset ≠ .oob := by
  grind [collectionHeaderAt, → rd_oob, → rdN_oob]

theorem tagHeaderAt_no_oob (b : Bytes) (offset : Nat) : tagHeaderAt b offset ≠ .oob := by
  grind [tagHeaderAt, → rd_oob, → rdN_oob]

end GV.Proofs.Walkers
