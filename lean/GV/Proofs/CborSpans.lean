import GV.Proofs.CborBytes
/-!
  `spansDef`, `spansIndef` and `childSpans` all produce the spans of consecutive well-formed
  items (`Items`). What is known about the children of a container is said once, in
  `childSpans_eq_some`, and read off from there.
-/
namespace GV.Cbor

def sumLens (cs : List (Nat × Nat)) : Nat := (cs.map (·.2)).sum

def Contig : Nat → List (Nat × Nat) → Prop
  | _, [] => True
  | start, (o, l) :: rest => o = start ∧ Contig (start + l) rest

def InBounds (n : Nat) (cs : List (Nat × Nat)) : Prop := ∀ p ∈ cs, p.1 + p.2 ≤ n

/-- `rest` is the input from offset `pos` on (`b.drop pos`, not `b`). -/
def Items : Bytes → Nat → List (Nat × Nat) → Prop
  | _, _, [] => True
  | rest, pos, (o, l) :: cs => o = pos ∧ wfItem rest = .ok l ∧ Items (rest.drop l) (pos + l) cs

theorem sumLens_cons (p : Nat × Nat) (cs : List (Nat × Nat)) : sumLens (p :: cs) = p.2 + sumLens cs := by
  simp [sumLens]

theorem readHead_break (tl : Bytes) : readHead ((0xff : UInt8) :: tl) = .mk 7 31 0 1 := by
  simp [readHead, argLen, beNat]

theorem wfItem_break_ne_ok (tl : Bytes) (n : Nat) : wfItem ((0xff : UInt8) :: tl) ≠ .ok n := by
  rw [wfItem_eq]
  simp [runS, step, readHead_break, action, brkOk]

theorem spansDef_eq_some {n : Nat} {rest : Bytes} {pos : Nat} {cs : List (Nat × Nat)} :
    spansDef n rest pos = some cs ↔ cs.length = n ∧ Items rest pos cs := by
  induction n generalizing rest pos cs with
  | zero => cases cs <;> simp [spansDef, Items]
  | succ n ih =>
    rw [spansDef]
    cases cs with
    | nil => cases wfItem rest <;> simp
    | cons p cs =>
      cases hw : wfItem rest with
      | ok l =>
        -- both sides say: the head span is `(pos, l)`, the tail by `ih`
        simp only [Option.map_eq_some_iff, ih, Items, hw, Res.ok.injEq, List.cons.injEq,
          List.length_cons, Nat.add_right_cancel_iff, Prod.ext_iff]
        grind
      | _ => simp [Items, hw]

theorem spansIndef_eq_some {f : Nat} {rest : Bytes} {pos : Nat} {cs : List (Nat × Nat)} :
    spansIndef f rest pos = some cs ↔
      cs.length < f ∧ Items rest pos cs ∧ ∃ tl, rest.drop (sumLens cs) = 0xff :: tl := by
  induction f generalizing rest pos cs with
  | zero => simp [spansIndef]
  | succ f ih =>
    cases rest with
    | nil => cases cs <;> simp [spansIndef, Items, wfItem_eq, runS, step, readHead]
    | cons x tl =>
      simp only [spansIndef]
      by_cases hx : x = 0xff
      · subst hx
        cases cs <;> simp [Items, sumLens, wfItem_break_ne_ok]
      · rw [if_neg hx]
        cases cs with
        | nil => cases wfItem (x :: tl) <;> simp [sumLens, hx]
        | cons p cs =>
          cases hw : wfItem (x :: tl) with
          | ok l =>
            simp only [Option.map_eq_some_iff, ih, Items, hw, Res.ok.injEq, List.cons.injEq,
              List.length_cons, Nat.add_lt_add_iff_right, Prod.ext_iff, sumLens_cons,
              ← List.drop_drop]
            grind
          | _ => simp [Items, hw]

theorem Items.append {rest : Bytes} {pos : Nat} {cs : List (Nat × Nat)} (r : Bytes)
    (h : Items rest pos cs) : Items (rest ++ r) pos cs := by
  induction cs generalizing rest pos with
  | nil => trivial
  | cons p cs ih =>
    obtain ⟨ho, hw, hi⟩ := h
    refine ⟨ho, wf_append hw r, ?_⟩
    rw [List.drop_append_of_le_length (wf_consumes_le hw).2]
    exact ih hi

theorem Items.props {b : Bytes} {pos : Nat} {cs : List (Nat × Nat)} (h : Items (b.drop pos) pos cs) :
    Contig pos cs ∧ cs.length ≤ sumLens cs ∧ sumLens cs ≤ b.length - pos ∧
      ∀ p ∈ cs, wfItem (b.drop p.1) = .ok p.2 ∧ pos ≤ p.1 ∧ p.1 + p.2 ≤ pos + sumLens cs := by
  induction cs generalizing pos with
  | nil => simp [Contig, sumLens]
  | cons p cs ih =>
    obtain ⟨rfl, hw, hi⟩ := h
    have hl := wf_drop_le hw
    rw [List.drop_drop] at hi
    obtain ⟨i1, i2, i3, i4⟩ := ih hi
    simp only [sumLens_cons, List.length_cons, List.forall_mem_cons]
    refine ⟨⟨rfl, i1⟩, by omega, by omega, ⟨hw, by omega, by omega⟩, fun q hq => ?_⟩
    have := i4 q hq
    exact ⟨this.1, by omega, by omega⟩

theorem childSpans_eq_some {b : Bytes} {h : Nat} {cs : List (Nat × Nat)} {ind : Bool} :
    childSpans b = some (h, cs, ind) ↔
      ∃ major ai arg, readHead b = .mk major ai arg h ∧ (major = 4 ∨ major = 5) ∧
        Items (b.drop h) h cs ∧
        if ind then ai = 31 ∧ (∃ tl, b.drop (h + sumLens cs) = 0xff :: tl) ∧
          ¬ (major = 5 ∧ cs.length % 2 = 1)
        else ai < 28 ∧ cs.length = if major = 4 then arg else 2 * arg := by
  constructor
  · fun_cases childSpans b
    -- an indefinite container, its items up to the break byte; in a map they come in pairs
    case case4 major arg hlen hm cs' hs hp hrh =>
      intro hc
      cases hc
      obtain ⟨_, hi, he⟩ := spansIndef_eq_some.mp hs
      rw [List.drop_drop] at he
      exact ⟨major, 31, arg, hrh, hm, hi, by rw [if_pos rfl]; exact ⟨rfl, he, hp⟩⟩
    -- a definite container and as many items as its head says
    case case6 major ai arg hlen hrh hm h31 h28 =>
      intro hc
      obtain ⟨cs', hs, hc⟩ := Option.map_eq_some_iff.mp hc
      cases hc
      obtain ⟨hl, hi⟩ := spansDef_eq_some.mp hs
      exact ⟨major, ai, arg, hrh, hm, hi, by rw [if_neg nofun]; exact ⟨Nat.lt_of_not_le h28, hl⟩⟩
    all_goals exact nofun
  · rintro ⟨major, ai, arg, hrh, hm, hi, hrest⟩
    have hb := readHead_bounds hrh
    unfold childSpans
    rw [hrh]
    simp only [hm, if_true]
    cases ind with
    | true =>
      obtain ⟨rfl, he, hpar⟩ := hrest
      have := (Items.props hi).2
      rw [← List.drop_drop] at he
      have hl : cs.length < b.length := by omega
      simp [spansIndef_eq_some.mpr ⟨hl, hi, he⟩, hpar]
    | false =>
      simp only [Bool.false_eq_true, if_false] at hrest
      have h31 : ¬ ai = 31 := by omega
      have h28 : ¬ 28 ≤ ai := by omega
      simp [h31, h28, spansDef_eq_some.mpr ⟨hrest.2, hi⟩]

theorem childSpans_head {b : Bytes} {h : Nat} {cs : List (Nat × Nat)} {ind : Bool} {major ai arg hl : Nat}
    (hc : childSpans b = some (h, cs, ind)) (hrh : readHead b = .mk major ai arg hl) :
    h = hl ∧ (major = 4 ∨ major = 5) ∧
      (ind = true ↔ ai = 31) ∧ (ind = false → ai < 28 ∧ cs.length = if major = 4 then arg else 2 * arg) := by
  obtain ⟨major', ai', arg', hrh', hm, _, hrest⟩ := childSpans_eq_some.mp hc
  rw [hrh] at hrh'
  cases hrh'
  refine ⟨rfl, hm, ?_, ?_⟩
  · cases ind <;> simp at hrest ⊢ <;> omega
  · rintro rfl; exact hrest

structure Children (b : Bytes) (h : Nat) (cs : List (Nat × Nat)) : Prop where
  contig : Contig h cs
  inBounds : InBounds b.length cs
  wf : ∀ p ∈ cs, wfItem (b.drop p.1) = .ok p.2
  length_le : cs.length ≤ b.length

theorem childSpans_children {b : Bytes} {h : Nat} {cs : List (Nat × Nat)} {ind : Bool}
    (hc : childSpans b = some (h, cs, ind)) : Children b h cs := by
  obtain ⟨_, _, _, hrh, _, hi, _⟩ := childSpans_eq_some.mp hc
  obtain ⟨h1, h2, h3, h4⟩ := Items.props hi
  have hb := readHead_bounds hrh
  exact ⟨h1, fun p hp => by have := (h4 p hp).2; omega, fun p hp => (h4 p hp).1, by omega⟩

theorem childSpans_append {x : Bytes} {res : Nat × List (Nat × Nat) × Bool} (t : Bytes)
    (h : childSpans x = some res) : childSpans (x ++ t) = some res := by
  obtain ⟨hl, cs, ind⟩ := res
  obtain ⟨major, ai, arg, hrh, hm, hi, hrest⟩ := childSpans_eq_some.mp h
  have hb := readHead_bounds hrh
  have : sumLens cs ≤ x.length - hl := (Items.props hi).2.2.1
  refine childSpans_eq_some.mpr ⟨major, ai, arg, readHead_append hrh, hm, ?_, ?_⟩
  · rw [List.drop_append_of_le_length hb.2]; exact hi.append t
  · cases ind with
    | false => exact hrest
    | true =>
      obtain ⟨h1, ⟨tl, h2⟩, h3⟩ := hrest
      exact ⟨h1, ⟨tl ++ t, by rw [List.drop_append_of_le_length (by omega), h2]; rfl⟩, h3⟩

theorem slice_append_left (x t : Bytes) (o l : Nat) (h : o + l ≤ x.length) :
    slice (x ++ t) o l = slice x o l := by
  unfold slice
  rw [List.drop_append_of_le_length (by omega), List.take_append_of_le_length]
  simp only [List.length_drop]; omega

theorem childSpans_indef_end {b : Bytes} {h : Nat} {cs : List (Nat × Nat)}
    (hc : childSpans b = some (h, cs, true)) : ∃ tl, b.drop (h + sumLens cs) = (0xff : UInt8) :: tl := by
  obtain ⟨_, _, _, _, _, _, hrest⟩ := childSpans_eq_some.mp hc
  exact hrest.2.1

theorem childSpans_map_even {b : Bytes} {h : Nat} {cs : List (Nat × Nat)} {ind : Bool} {ai arg hl : Nat}
    (hc : childSpans b = some (h, cs, ind)) (hrh : readHead b = .mk 5 ai arg hl) :
    cs.length % 2 = 0 := by
  obtain ⟨major, ai', arg', hrh', _, _, hrest⟩ := childSpans_eq_some.mp hc
  rw [hrh] at hrh'; cases hrh'
  cases ind <;> simp at hrest <;> omega

theorem wfItem_uint {x : Bytes} {ai arg hlen : Nat} (hrh : readHead x = .mk 0 ai arg hlen)
    (hai : ai ≤ 27) : wfItem x = .ok hlen := by
  have hb := readHead_bounds hrh
  rw [wfItem_eq]
  have h2830 : ¬ (28 ≤ ai ∧ ai ≤ 30) := by omega
  have h31 : ¬ ai = 31 := by omega
  have hl : ¬ x.length < hlen := by omega
  simp [runS, step, hrh, action, actionCore, h2830, h31, hl, finish, itemDone]

end GV.Cbor
