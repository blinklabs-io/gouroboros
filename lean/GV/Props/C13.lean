import GV.Model.RecvBuffer
import GV.Model.Reassembly
import GV.Proofs.Reassembly
import GV.Gen.LimitsG4
import GV.Model.RecvEngine
import GV.Proofs.RecvEngine
import GV.Model.StateMachines
import GV.Proofs.Machine
import GV.Gen.StateMaps
/-!
C13 — Receive buffering is bounded.

In every state that declares a byte limit, an endpoint never holds more unprocessed received
message bytes than that limit (apart from the single message being processed). A single
message larger than the limit, or an incomplete message that grows past the 16 MiB
read-buffer bound, ends the protocol with an error. A fast sender is slowed down rather
than causing an error, and the slowing down never deadlocks the connection.

Level: partial. The accounting, the two error rules and progress of the back-pressure wait
are theorems about the model for every schedule; that the real scheduler / TCP actually
slow the sender down is exercised by the correspondence run, not proved.
-/
namespace GV.Props.C13
open GV.Model.RecvBuffer

def Inv (s : Acct) : Prop := s.pending = s.sizes.sum

theorem inv_init : Inv Acct.init := rfl

theorem accept_ok_iff {s s' : Acct} {size limit : Nat} :
    accept s size limit = .ok s' ↔
      (limit = 0 ∨ (size ≤ limit ∧ s.pending + size ≤ limit)) ∧
        s' = ⟨s.pending + size, s.sizes ++ [size]⟩ := by
  unfold accept
  grind

theorem accept_oversize_iff {s : Acct} {size limit : Nat} :
    accept s size limit = .oversize ↔ 0 < limit ∧ limit < size := by
  unfold accept
  grind

theorem step_acc_iff {s s' : Acct} {size limit : Nat} :
    step s (.acc size limit) = some s' ↔ accept s size limit = .ok s' := by
  simp only [step]
  cases accept s size limit <;> simp

theorem release_sizes (s : Acct) : (release s).sizes = s.sizes.tail := by
  unfold release; split <;> simp [*]

theorem release_pending_le (s : Acct) : (release s).pending ≤ s.pending := by
  unfold release; split
  · exact Nat.le_refl _
  · exact Nat.sub_le _ _

theorem inv_release {s : Acct} (h : Inv s) : Inv (release s) := by
  unfold Inv release at *
  split
  · exact h
  · next x t hsz => simp only [hsz, List.sum_cons] at h ⊢; omega

theorem inv_step (s s' : Acct) (a : Act) (h : Inv s) (hs : step s a = some s') : Inv s' := by
  cases a with
  | acc size limit =>
    obtain ⟨_, rfl⟩ := accept_ok_iff.mp (step_acc_iff.mp hs)
    simp [Inv, show s.pending = s.sizes.sum from h]
  | rel => cases hs; exact inv_release h

theorem run_eq_foldlM (s : Acct) (sched : List Act) : run s sched = sched.foldlM step s := by
  fun_induction run s sched <;> simp [*]

/-- `pendingRecvBytes = Σ pendingRecvSizes` after every schedule of accepts and releases. -/
theorem sizes_sum (sched : List Act) : ∀ (s s' : Acct), Inv s → run s sched = some s' → Inv s' :=
  fun s _ h hr => StepSystem.foldlM_invariant sched (fun s a s' _ => inv_step s s' a) h
    (run_eq_foldlM s sched ▸ hr)

/-- Every accept in a state that declares a limit leaves the pending bytes within the limit
    (the limit being the one read at that accept). -/
theorem pending_le_limit_at_accept (s s' : Acct) (size limit : Nat) (hl : 0 < limit)
    (h : accept s size limit = .ok s') : s'.pending ≤ limit := by
  obtain ⟨hc, rfl⟩ := accept_ok_iff.mp h
  simp only
  omega

/-- With limits bounded by `L` in every accepting state (chain-sync NtN: uniformly 462000;
    block-fetch client: 2500000 in Busy and Streaming) the pending bytes never exceed `L`,
    for every schedule of producer and consumer steps. -/
theorem pending_le_limit (L : Nat) (sched : List Act) :
    ∀ (s s' : Acct), s.pending ≤ L →
    (∀ size limit, Act.acc size limit ∈ sched → 0 < limit ∧ limit ≤ L) →
    run s sched = some s' → s'.pending ≤ L := by
  intro s s' h hall hr
  refine StepSystem.foldlM_invariant sched (P := fun t => t.pending ≤ L) ?_ h (run_eq_foldlM s sched ▸ hr)
  intro t a t' ha ht hst
  cases a with
  | acc size limit =>
    have hb := hall size limit ha
    have := pending_le_limit_at_accept t t' size limit hb.1 (step_acc_iff.mp hst)
    omega
  | rel => cases hst; exact Nat.le_trans (release_pending_le t) ht

/-- A single message larger than the declared limit ends the protocol with an error,
    whatever is pending. -/
theorem oversize_errors (s : Acct) (size limit : Nat) (hl : 0 < limit) (h : size > limit) :
    accept s size limit = .oversize ∧ step s (.acc size limit) = none := by
  have : accept s size limit = .oversize := accept_oversize_iff.mpr ⟨hl, h⟩
  exact ⟨this, by simp [step, this]⟩

/-- A message that fits the limit is never an error, however much is pending: the fast
    sender is postponed (`blocked`), not disconnected. -/
theorem fits_never_error (s : Acct) (size limit : Nat) (h : size ≤ limit) :
    accept s size limit ≠ .oversize := by
  intro e
  have := accept_oversize_iff.mp e
  omega

/-- Without a declared limit nothing is ever postponed or refused. -/
theorem no_limit_accepts (s : Acct) (size : Nat) : ∃ s', accept s size 0 = .ok s' :=
  ⟨_, accept_ok_iff.mpr ⟨.inl rfl, rfl⟩⟩

theorem releaseN_all (sizes : List Nat) : ∀ (s : Acct), s.sizes = sizes → Inv s →
    releaseN s sizes.length = ⟨0, []⟩ := by
  induction sizes with
  | nil => intro s hs hi; cases s; simp_all [releaseN, Inv]
  | cons x t ih =>
    intro s hs hi
    exact ih (release s) (by rw [release_sizes, hs]; rfl) (inv_release hi)

/-- **Back-pressure makes progress.** Whenever an accept is postponed, the consumer can
    always take a step (release is always enabled and strictly shortens the queue), and
    after at most `sizes.length` consumer steps the postponed message is accepted: the wait
    loop cannot deadlock against the draining loop. -/
theorem backpressure_progress (s : Acct) (size limit : Nat) (hi : Inv s) (hfit : size ≤ limit) :
    (∀ s1 : Acct, s1.sizes ≠ [] → (release s1).sizes.length < s1.sizes.length) ∧
    ∃ k, k ≤ s.sizes.length ∧ ∃ s', accept (releaseN s k) size limit = .ok s' := by
  constructor
  · intro s1 hne
    have := List.length_pos_iff.mpr hne
    rw [release_sizes, List.length_tail]; omega
  · refine ⟨s.sizes.length, Nat.le_refl _, ?_⟩
    rw [releaseN_all s.sizes s rfl hi]
    exact ⟨_, accept_ok_iff.mpr ⟨.inr ⟨hfit, by simpa using hfit⟩, rfl⟩⟩

/-! ### The 16 MiB bound on an incomplete message -/

open GV.Model.Reassembly GV.Proofs.Reassembly in
/-- An incomplete buffer larger than `maxReadBufferSize` ends the protocol with an error. -/
theorem incomplete_growth_errors (wf : Bytes → Res) (buf : Bytes) (out : List Bytes)
    (h : wf buf = .needMore) (hbig : buf.length > GV.Model.Reassembly.maxReadBuffer) :
    (drain wf buf out).2.2 = some .tooBig := by
  rw [drain_needMore wf buf out h, if_pos hbig]

open GV.Model.Reassembly GV.Proofs.Reassembly in
/-- … and one within the bound is kept, waiting for more (no error). -/
theorem incomplete_within_bound_waits (wf : Bytes → Res) (buf : Bytes) (out : List Bytes)
    (h : wf buf = .needMore) (hsmall : buf.length ≤ GV.Model.Reassembly.maxReadBuffer) :
    drain wf buf out = (buf, out, none) := by
  rw [drain_needMore wf buf out h, if_neg (by omega)]

section endless
open GV.Model.Reassembly GV.Proofs.Reassembly

theorem fold_err_stays (wf : Bytes → Res) (segs : List Bytes) (s : RState) (e : RErr)
    (h : s.err = some e) : segs.foldl (recvSeg wf) s = s :=
  StepSystem.foldl_fixed (fun x => by simp [recvSeg, h]) segs

-- `i` is the index `growErrAt.go` counts up: the conclusion forgets it, the induction carries it
theorem endless_aux (wf : Bytes → Res) (segs : List Bytes) : ∀ (pre : Bytes) (out : List Bytes) (i : Nat),
    (∀ k, k < segs.length → wf (pre ++ (segs.take (k + 1)).flatten) = .needMore) →
    (segs.foldl (recvSeg wf) ⟨pre, out, none⟩).err =
      (growErrAt.go pre.length i (segs.map List.length)).map (fun _ => RErr.tooBig) := by
  induction segs with
  | nil => intro pre out i _; simp [growErrAt.go]
  | cons sg t ih =>
    intro pre out i hk
    have h0 : wf (pre ++ sg) = .needMore := by simpa using hk 0 (by simp)
    have hstep : recvSeg wf ⟨pre, out, none⟩ sg = ⟨pre ++ sg, out,
        if pre.length + sg.length > GV.Model.RecvBuffer.maxReadBuffer then some .tooBig else none⟩ := by
      -- `rfl`: `drain` compares with `Reassembly.maxReadBuffer`, `growErrAt` with
      -- `RecvBuffer.maxReadBuffer`; both are `Gen.Limits.maxReadBufferSize`
      simp only [recvSeg, drain_needMore wf _ out h0, List.length_append]; rfl
    simp only [List.foldl_cons, List.map_cons, growErrAt.go, hstep]
    by_cases hbig : pre.length + sg.length > GV.Model.RecvBuffer.maxReadBuffer
    · rw [if_pos hbig, if_pos hbig, fold_err_stays wf t _ .tooBig rfl]; rfl
    · rw [if_neg hbig, if_neg hbig, ← List.length_append]
      exact ih (pre ++ sg) out (i + 1) fun k hkl => by
        simpa [List.append_assoc] using hk (k + 1) (by simp; omega)

/-- **Endless incomplete CBOR.** If every cumulative buffer is an incomplete item, the read
    loop ends with "read buffer exceeded maximum size" when some segment takes the buffer past
    `maxReadBufferSize`, and without an error when none does.  (`growErrAt` finds the first such
    segment; only whether there is one enters the statement.) -/
theorem endless_incomplete_errors (wf : Bytes → Res) (segs : List Bytes)
    (h : ∀ k, k < segs.length → wf ((segs.take (k + 1)).flatten) = .needMore) :
    (readAll wf segs).err = (growErrAt (segs.map List.length)).map (fun _ => RErr.tooBig) := by
  have := endless_aux wf segs [] [] 0 (by simpa using h)
  simpa [readAll, RState.init, growErrAt] using this

end endless


/-! ### Per-state limits: the limit consulted is that of a state that lags behind the queue -/

section perstate
open GV.SM GV.Model.RecvEngine GV.Proofs.RecvEngine

/-- `StateMap[id].PendingMessageByteLimit` in a generated table. -/
def limitOf (m : Machine) (id : Nat) : Nat :=
  match m.stateOf id with
  | some s => s.limit
  | none => 0

/-- The engine parameters of a generated machine (`Gen/StateMaps`, read out of the running
    code on every run). -/
def engOf (m : Machine) : Eng Sym := ⟨m.agencyOf, limitOf m, m.step⟩

/-- Table check: every transition into a state with a tighter byte limit changes the agency. -/
def tightenOk (m : Machine) : Bool :=
  m.trans.all fun tr =>
    !(tightens (limitOf m tr.src) (limitOf m tr.dst)) || (m.agencyOf tr.dst != m.agencyOf tr.src)

def agencyOk (m : Machine) : Bool := m.states.all fun s => decide (s.agency ≤ 2)

theorem handover_of_table (m : Machine) (h : tightenOk m = true) :
    LimitDropsOnHandover (engOf m) := by
  intro s a d hn ht
  unfold tightenOk at h
  rw [List.all_eq_true] at h
  have := h _ (findTr_some_mem hn)
  simp only [engOf] at ht ⊢
  simp only [ht, Bool.not_true, Bool.false_or, bne_iff_ne, ne_eq] at this
  exact this

theorem agencyRange_of_table (m : Machine) (h : agencyOk m = true) : AgencyRange (engOf m) :=
  m.agencyOf_le_two (by simpa [agencyOk] using h)

/-- **Limit drops only on an empty queue — decided on every generated state map.** In all
    38 machines read out of the running code, every transition into a state with a tighter
    `PendingMessageByteLimit` (block-fetch: BatchDone / NoBlocks into Idle) hands the agency
    over, so a peer that respects agency has nothing queued behind it. -/
theorem limit_drops_only_on_handover :
    ∀ m ∈ GV.Gen.StateMaps.all, tightenOk m = true ∧ agencyOk m = true := by decide

/-- **Per-state bound.** For every generated machine, either role, every schedule of peer
    sends (respecting agency), accepts with the limit of the lagging current state, handler
    starts / ends and own sends: whenever the current state declares a limit, the bytes queued
    behind the message being handled never exceed it. -/
theorem pending_le_state_limit (m : Machine) (hm : m ∈ GV.Gen.StateMaps.all)
    (us : Nat) (hus : us = 1 ∨ us = 2) (acts : List (EAct Sym)) (s' : ES Sym)
    (hr : erun (engOf m) us ⟨m.init, [], false⟩ acts = some s')
    (hl : limitOf m s'.cur > 0) :
    sumSizes s'.path ≤ limitOf m s'.cur := by
  have ht := limit_drops_only_on_handover m hm
  have hinv := einv_run (engOf m) us hus (handover_of_table m ht.1) (agencyRange_of_table m ht.2)
    acts _ s' (einv_init (engOf m) us m.init) hr
  exact hinv.2.2 hl

/-- The handover condition is necessary: a table where a tightening transition keeps the
    agency with the peer admits a run that breaks the bound (so the table check is not
    vacuous). -/
example :
    let E : Eng Nat := ⟨fun _ => 2, fun s => if s = 0 then 100 else 10, fun s _ => some (s + 1)⟩
    ∃ s', erun E 1 ⟨0, [], false⟩ [.peerSend 0 50, .peerSend 0 50, .beginH] = some s' ∧
      ¬ (sumSizes s'.path ≤ E.limit s'.cur) := by
  refine ⟨⟨1, [(0, 50), (0, 50)], true⟩, by rfl, by decide⟩

/-- Non-vacuity on the real block-fetch client table: a batch is queued while the state is
    still Busy, handled one by one, and after BatchDone the Idle limit applies with nothing
    queued. -/
example : (erun (engOf GV.Gen.StateMaps.blockfetch_client) 1 ⟨100000, [], false⟩
    [.ourSend ⟨0, 0⟩, .peerSend ⟨2, 0⟩ 2, .peerSend ⟨4, 0⟩ 2000000, .peerSend ⟨5, 0⟩ 2,
     .beginH, .endH, .beginH, .endH, .beginH]).map (fun s => (s.cur, sumSizes s.path)) =
    some (100000, 0) := by decide

end perstate

/-! ### Regenerated limits (from the source on every run) -/

/-- Every state in which the block-fetch client receives declares the same limit, so a
    block read while the state machine still lags in Busy is judged like one read in
    Streaming; and chain-sync NtN / block-fetch declare non-zero limits. -/
theorem declared_limits :
    GV.Gen.LimitsG4.blockfetchBusyMaxPendingMessageBytes =
      GV.Gen.LimitsG4.blockfetchStreamingMaxPendingMessageBytes ∧
    0 < GV.Gen.LimitsG4.chainsyncMaxPendingMessageBytes ∧
    0 < GV.Gen.LimitsG4.blockfetchIdleMaxPendingMessageBytes ∧
    0 < GV.Gen.LimitsG4.blockfetchStreamingMaxPendingMessageBytes ∧
    GV.Gen.LimitsG4.blockfetchStreamingMaxPendingMessageBytes ≤ GV.Gen.Limits.maxReadBufferSize ∧
    GV.Gen.LimitsG4.chainsyncMaxPendingMessageBytes ≤ GV.Gen.Limits.maxReadBufferSize := by
  decide

/-! ### Non-vacuity -/

/-- A reachable blocked state that becomes enabled after one consumer step. -/
example : run Acct.init [.acc 60 100, .acc 40 100] = some ⟨100, [60, 40]⟩ ∧
    accept ⟨100, [60, 40]⟩ 50 100 = .blocked ∧
    accept (release ⟨100, [60, 40]⟩) 50 100 = .ok ⟨90, [40, 50]⟩ ∧
    accept Acct.init 101 100 = .oversize := by decide

end GV.Props.C13
