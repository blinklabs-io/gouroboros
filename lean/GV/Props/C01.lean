import GV.Model.StoreCbor
import GV.Proofs.CborSpans
import GV.Model.PreserveTypes
import GV.Proofs.StepSystem
/-!
C01 — Decoded blocks and transactions keep their exact wire bytes.

Clauses: (1) the stored encoding is exactly the byte range the object was decoded
from, whatever header forms / integer widths the input uses; (2) identifiers are the
digest of those bytes; (3) re-serialising an unmodified decoded object reproduces them.
(1) and (2) are theorems about the model `GV.Model.StoreCbor` and hold on the real code for every
era (correspondence run). (3) holds in the model for the types that follow the
"return the stored bytes" MarshalCBOR pattern (`marshal`); the real code does NOT
follow that pattern for most transaction bodies, witness sets and outputs:
`C01_reencode_full` is refuted on the real code (known findings `reencode-body/wit/out`),
see `C01_reencode_partial`. Block headers Byron..Conway and the Byron blocks did not follow
it either; that was repaired (`headers_and_blocks_preserve`, regenerated from the source).
Left out: `extractAndSet` (`ExtractAndSetTransactionCbor`, which shifts the spans of two
`setArrayItems` calls to offsets in the block) is run by the driver and is the subject of no
theorem; `extract_count_guard` is about `setArrayItems`.
-/
namespace GV.Props.C01
open GV.Cbor GV.Model.Offsets GV.Model.StoreCbor

theorem decodeStore_eq_some {b s : Bytes} : decodeStore b = some s ↔ ∃ n, wfItem b = .ok n ∧ s = b.take n := by
  unfold decodeStore
  cases wfItem b <;> simp [eq_comm]

/-- Whatever follows an item, and whatever header forms the item uses
    (the quantifier is "every byte string the well-formedness machine accepts"), the
    decoded object stores exactly the item's bytes. -/
theorem stored_is_span (item rest : Bytes) (h : wfItem item = .ok item.length) :
    decodeStore (item ++ rest) = some item :=
  decodeStore_eq_some.mpr ⟨_, wf_append h rest, (List.take_left' rfl).symm⟩

/-- The stored bytes are always a prefix of the input that is itself exactly one
    well-formed item (nothing more, nothing less is captured). -/
theorem stored_is_exact_item {b s : Bytes} (h : decodeStore b = some s) :
    s = b.take s.length ∧ wfItem s = .ok s.length ∧ s.length ≤ b.length := by
  obtain ⟨n, hw, rfl⟩ := decodeStore_eq_some.mp h
  have hn := wf_consumes_le hw
  rw [List.length_take, Nat.min_eq_left hn.2]
  exact ⟨rfl, wf_take hw, hn.2⟩

/-- A truncated item is never stored (no partial capture). -/
theorem truncated_not_stored {item : Bytes} (h : wfItem item = .ok item.length) {k : Nat}
    (hk : k < item.length) : decodeStore (item.take k) = none := by
  unfold decodeStore
  rw [wf_prefix h hk]

/-- Re-serialising an unmodified decoded object of a type that follows
    the stored-bytes MarshalCBOR pattern reproduces the stored bytes. -/
theorem marshal_roundtrip (s re : Bytes) : marshal { cbor := some s, reencoded := re } = s := rfl

/-- The identifier is the digest of the stored bytes. -/
theorem id_of_exact_bytes {D : Type} (h : Bytes → D) (s re : Bytes) :
    ident h { cbor := some s, reencoded := re } = h s := rfl

/-- With an injective digest (ideal-hash hypothesis, never an axiom) equal identifiers mean equal
    stored bytes — two encodings of the "same" object are different objects. -/
theorem id_binds_bytes {D : Type} (h : Bytes → D) (hinj : Function.Injective h)
    (s1 s2 r1 r2 : Bytes) (he : ident h ⟨some s1, r1⟩ = ident h ⟨some s2, r2⟩) : s1 = s2 :=
  hinj he

/-- toy instance: the hypotheses of `id_binds_bytes` are satisfiable -/
example : ident (D := Bytes) id ⟨some [0x98, 0x01, 0x00], [0x81, 0x00]⟩ ≠
          ident (D := Bytes) id ⟨some [0x81, 0x00], [0x81, 0x00]⟩ := by decide

theorem skipItem_eq_some {b : Bytes} {l : Nat} : skipItem b = some l ↔ wfItem b = .ok l := by
  unfold skipItem
  cases wfItem b <;> simp

theorem itemsLoop_items {data : Bytes} {expected count : Nat} {indef : Bool} {fuel pos idx : Nat} :
    ∀ {items : List (Nat × Nat)}, itemsLoop data expected count indef fuel pos idx = some items →
      idx + items.length = expected ∧ Items (data.drop pos) pos items := by
  fun_induction itemsLoop data expected count indef fuel pos idx <;> intro items h
  -- the loop stops with `idx = expected`
  case case2 => cases h; exact ⟨rfl, trivial⟩
  -- one more item of length `l`, then the rest of the loop
  case case6 pos idx _ l hl hge ih =>
    obtain ⟨rest, hr, rfl⟩ := Option.map_eq_some_iff.mp h
    obtain ⟨h1, h2⟩ := ih hr
    exact ⟨by simp only [List.length_cons]; omega, rfl, skipItem_eq_some.mp hl, by rwa [List.drop_drop]⟩
  -- no fuel, a stop at another count, a skip that fails, an item too many: `none`
  all_goals cases h

/-- When `setArrayItemCbor` (`setArrayItems`) succeeds it has
    handed out exactly `expected` slices (a count mismatch is an error, never a
    mis-assignment), and every slice is exactly one well-formed item of the array
    data, in bounds — for definite headers of any width and for indefinite arrays. -/
theorem extract_count_guard (data : Bytes) (expected : Nat) (items : List (Nat × Nat))
    (h : setArrayItems data expected = some items) :
    items.length = expected ∧
    ∀ p ∈ items, wfItem (data.drop p.1) = .ok p.2 ∧ p.1 + p.2 ≤ data.length ∧
      decodeStore (data.drop p.1) = some (slice data p.1 p.2) := by
  unfold setArrayItems at h
  simp only at h
  split at h
  · cases h
  · split at h
    · cases h
    · obtain ⟨h1, h2⟩ := itemsLoop_items h
      refine ⟨by omega, fun p hp => ?_⟩
      have a : wfItem (data.drop p.1) = .ok p.2 := ((Items.props h2).2.2.2 p hp).1
      exact ⟨a, (wf_drop_le a).2, decodeStore_eq_some.mpr ⟨_, a, rfl⟩⟩

/-- Non-vacuity: an indefinite-length bodies array with two bodies (one with a
    non-minimal map header), expected count 2 → the two exact slices; expected 3 → error. -/
example : setArrayItems [0x9f, 0xa0, 0xb8, 0x01, 0x00, 0x00, 0xff] 2 = some [(1, 1), (2, 4)] := by decide
example : setArrayItems [0x9f, 0xa0, 0xb8, 0x01, 0x00, 0x00, 0xff] 3 = none := by decide
example : setArrayItems [0x98, 0x02, 0xa0, 0xa0] 1 = none := by decide

/-! ### which types re-serialise to their stored bytes (regenerated tables)

The three statements below are the parts of `preserves_tables`: evaluated together, each type is
looked up in the tables once. -/

theorem preserves_tables :
    (["byron.ByronTransactionOutput", "shelley.ShelleyTransactionOutput", "mary.MaryTransactionOutput",
      "alonzo.AlonzoTransactionOutput", "babbage.BabbageTransactionOutput",
      "dijkstra.DijkstraTransactionOutput"].filter (GV.Model.PreserveTypes.preserves 4)) =
      ["dijkstra.DijkstraTransactionOutput"] ∧
    ((GV.Model.PreserveTypes.eras.filter fun e => GV.Model.PreserveTypes.preservesKind "body" e) =
        ["shelley", "allegra", "mary", "dijkstra"] ∧
      (GV.Model.PreserveTypes.eras.filter fun e => GV.Model.PreserveTypes.preservesKind "wit" e) = ["babbage"]) ∧
    ∀ era ∈ GV.Model.PreserveTypes.eras,
      GV.Model.PreserveTypes.preservesKind "blk" era = true ∧
      GV.Model.PreserveTypes.preservesKind "hdr" era = true := by decide +kernel

/-- Regenerated: among the output types, only the Dijkstra wrapper returns its stored bytes today;
    the legacy output types it can wrap, and every earlier era's output type, re-encode (recorded
    class `reencode-out`, decided per failing item from its concrete type). -/
theorem output_types_today :
    (["byron.ByronTransactionOutput", "shelley.ShelleyTransactionOutput", "mary.MaryTransactionOutput",
      "alonzo.AlonzoTransactionOutput", "babbage.BabbageTransactionOutput",
      "dijkstra.DijkstraTransactionOutput"].filter (GV.Model.PreserveTypes.preserves 4)) =
    ["dijkstra.DijkstraTransactionOutput"] :=
  preserves_tables.1

/-- Regenerated too: which transaction-body and witness-set types preserve bytes today (only
    Shelley, Allegra, Mary and Dijkstra bodies and Babbage witness sets; the Shelley, Allegra and
    Dijkstra bodies do since `fix:` commit 92c71c5) — the complement is the recorded finding
    classes `reencode-body` / `reencode-wit`; a type gaining the stored-bytes MarshalCBOR changes
    this statement (and shrinks the known class) on the next run. -/
theorem bodies_and_witness_sets_today :
    (GV.Model.PreserveTypes.eras.filter fun e => GV.Model.PreserveTypes.preservesKind "body" e) =
      ["shelley", "allegra", "mary", "dijkstra"] ∧
    (GV.Model.PreserveTypes.eras.filter fun e => GV.Model.PreserveTypes.preservesKind "wit" e) = ["babbage"] :=
  preserves_tables.2.1

/-- **Regenerated tie for clause (3).** In the Go source as it stands now, the block type and
    the block-header type of EVERY era (Byron..Dijkstra) have a MarshalCBOR — their own or one
    promoted from an embedded header type — that returns the stored wire bytes. The table is
    re-extracted with go/ast on every run: deleting such a method or its stored-bytes branch
    breaks this obligation. -/
theorem headers_and_blocks_preserve :
    ∀ era ∈ GV.Model.PreserveTypes.eras,
      GV.Model.PreserveTypes.preservesKind "blk" era = true ∧
      GV.Model.PreserveTypes.preservesKind "hdr" era = true :=
  preserves_tables.2.2

/-! ### Object reuse -/

/-- the cache, when filled, holds the digest of the currently stored bytes -/
def CacheOk {D : Type} (h : Bytes → D) (o : Obj D) : Prop :=
  ∀ d, o.cache = some d → d = h (o.stored.getD [])

theorem cacheOk_step {D : Type} (h : Bytes → D) (o : Obj D) (op : ReuseOp) (hk : CacheOk h o) :
    CacheOk h (reuseStep h o op) := by
  cases op with
  | decode b =>
    simp only [reuseStep, decodeInto]
    cases decodeStore b with
    | none => exact hk
    | some s => intro d hd; simp at hd
  | hash =>
    simp only [reuseStep, hashOf]
    cases hc : o.cache with
    | some d => simpa using hk
    | none =>
      intro d hd
      simp only [Option.some.injEq] at hd
      exact hd.symm

theorem cacheOk_run {D : Type} (h : Bytes → D) (ops : List ReuseOp) :
    ∀ (o : Obj D), CacheOk h o → CacheOk h (reuseRun h o ops) :=
  fun _ hk => GV.StepSystem.foldl_invariant ops (fun o op _ => cacheOk_step h o op) hk

theorem hashOf_stored {D : Type} (h : Bytes → D) (o : Obj D) : (hashOf h o).2.stored = o.stored := by
  unfold hashOf
  cases o.cache <;> rfl

/-- Whatever was decoded into an object before and however often its
    identifier was asked for (and cached) in between: after a successful decode of `b`, and
    after any further identifier queries, the stored bytes are exactly the item at the start of
    `b` (nothing of the previous, possibly longer, content survives) and the identifier is the
    digest of exactly those bytes. -/
theorem id_after_reuse {D : Type} (h : Bytes → D) (before : List ReuseOp) (b s : Bytes) (queries : Nat)
    (hs : decodeStore b = some s) :
    let o := reuseRun h (reuseRun h ({} : Obj D) (before ++ [.decode b])) (List.replicate queries .hash)
    (hashOf h o).1 = h s ∧ o.stored = some s := by
  intro o
  have hstored : o.stored = some s := by
    refine GV.StepSystem.foldl_invariant (P := fun o : Obj D => o.stored = some s) _ (fun o' op hop ho' => ?_) ?_
    · rw [List.eq_of_mem_replicate hop]; exact (hashOf_stored h o').trans ho'
    · simp only [reuseRun, List.foldl_append, List.foldl_cons, List.foldl_nil, reuseStep, decodeInto, hs]
  have hk : CacheOk h o := cacheOk_run h _ _ (cacheOk_run h _ _ (fun d hd => nomatch hd))
  refine ⟨?_, hstored⟩
  simp only [hashOf]
  cases hc : o.cache with
  | some d => simp only; rw [hk d hc, hstored]; rfl
  | none => simp only; rw [hstored]; rfl

/-- Non-vacuity / what the theorem excludes: if the decode kept the cache (a field-by-field
    copy in `UnmarshalCBOR`), the identifier after reuse is the PREVIOUS object's. -/
theorem stale_cache_counterexample :
    let a : Bytes := [0x82, 0x01, 0x02]
    let b : Bytes := [0x81, 0x05]
    let o1 := (hashOf (D := Bytes) id (decodeInto {} a)).2
    (hashOf id (decodeIntoStale o1 b)).1 = a ∧ (decodeIntoStale o1 b).stored = some b ∧
    (hashOf id (decodeInto o1 b)).1 = b := by decide

/-- Clause (3) at full strength: every decoded object re-serialises to its stored bytes. -/
def C01_reencode_full (marshalOf : Stored → Bytes) : Prop :=
  ∀ s re, marshalOf { cbor := some s, reencoded := re } = s

/-- It holds for the stored-bytes pattern (transactions, and the types the three statements above
    list: blocks and block headers of every era, Shelley/Allegra/Mary/Dijkstra bodies, Babbage
    witness sets, the Dijkstra output wrapper). -/
theorem C01_reencode_partial : C01_reencode_full marshal := fun _ _ => rfl

/-- A type without that pattern re-encodes its fields; on a non-minimally encoded
    input that is a different byte string (witness: a header/array `98 01 00`
    re-encoded minimally as `81 00`). This is what the real code does for most bodies,
    witness sets and outputs (and did for block headers Byron..Conway and the Byron blocks
    before `fix:` commit ea8f72a, see `headers_and_blocks_preserve`). -/
theorem C01_reencode_witness : ¬ C01_reencode_full (fun o => o.reencoded) := by
  intro h
  have := h [0x98, 0x01, 0x00] [0x81, 0x00]
  exact absurd this (by decide)

end GV.Props.C01
