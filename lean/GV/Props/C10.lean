import GV.Model.Reassembly
import GV.Proofs.Reassembly
/-!
C10 — Messages survive segmentation and reassembly unchanged.

Any sequence of mini-protocol messages queued by one endpoint is received by the peer as
the same sequence, with identical bytes and in the same order, for any message sizes, with
several messages packed into one segment or one message split across many, and for any
timing of the sends.

The message decoder is abstract: the theorems hold for every `wf` satisfying `Laws`
(consumed ≤ length, an item followed by anything parses to the same length, a proper prefix
of an item is "incomplete" — never accepted, never an error). For CBOR these are
`wf_consumes_le`, `wf_unique`, `wf_prefix` (proved for the real well-formedness machine by
the CBOR properties); the tie runs the real fxamacker decoder.
-/
namespace GV.Props.C10
open GV.Model.Reassembly GV.Proofs.Reassembly

/-- **Reassembly is the identity.** For every decoder satisfying the laws, every sequence of
    messages (each one complete item of at most `maxReadBufferSize` bytes) and EVERY way of
    cutting their concatenation into segments, the read loop hands exactly those messages,
    byte-identical and in order, to the receive queue, ends with an empty buffer and no error. -/
theorem reassemble_id (wf : Bytes → Res) (L : Laws wf) (msgs segs : List Bytes)
    (hitem : ∀ m ∈ msgs, IsItem wf m) (hmax : ∀ m ∈ msgs, m.length ≤ maxReadBuffer)
    (hcut : segs.flatten = msgs.flatten) :
    (readAll wf segs).msgs = msgs ∧ (readAll wf segs).err = none ∧ (readAll wf segs).buf = [] := by
  have hall : drain wf msgs.flatten [] = ([], msgs.reverse, none) := by
    simpa [drain_nil] using drain_items L msgs hitem [] []
  rw [readAll_eq_drain L msgs segs [] hitem hmax (by simpa using hcut), hcut, hall]
  simp [toState, RState.msgs]

/-- The sender's segments: whatever batches the send loop forms, every segment carries
    1..65535 bytes and the segments concatenate to the messages' bytes in queue order. -/
theorem segments_ok (batches : List (List Bytes)) :
    (∀ s ∈ sendSegs batches, 0 < s.length ∧ s.length ≤ 65535) ∧
    (sendSegs batches).flatten = batches.flatten.flatten :=
  ⟨sendSegs_bounds batches, sendSegs_flatten batches⟩

/-- **End to end.** However the send loop groups the queued messages into batches (several
    messages in one segment, one message over many segments, any timing of the queue), the
    peer's read loop receives exactly the queued sequence. -/
theorem end_to_end (wf : Bytes → Res) (L : Laws wf) (batches : List (List Bytes))
    (hitem : ∀ m ∈ batches.flatten, IsItem wf m)
    (hmax : ∀ m ∈ batches.flatten, m.length ≤ maxReadBuffer) :
    (readAll wf (sendSegs batches)).msgs = batches.flatten ∧
    (readAll wf (sendSegs batches)).err = none :=
  let r := reassemble_id wf L batches.flatten (sendSegs batches) hitem hmax (sendSegs_flatten batches)
  ⟨r.1, r.2.1⟩

/-- The muxer may re-cut the stream arbitrarily: two segmentations of the same bytes are
    indistinguishable to the receiver. -/
theorem segmentation_irrelevant (wf : Bytes → Res) (L : Laws wf) (msgs s1 s2 : List Bytes)
    (hitem : ∀ m ∈ msgs, IsItem wf m) (hmax : ∀ m ∈ msgs, m.length ≤ maxReadBuffer)
    (h1 : s1.flatten = msgs.flatten) (h2 : s2.flatten = msgs.flatten) :
    (readAll wf s1).msgs = (readAll wf s2).msgs := by
  rw [(reassemble_id wf L msgs s1 hitem hmax h1).1, (reassemble_id wf L msgs s2 hitem hmax h2).1]

/-- After any whole number of segments the messages handed over so far are a prefix of the
    queued sequence (nothing is reordered, duplicated or invented mid-stream). -/
theorem received_is_prefix (wf : Bytes → Res) (L : Laws wf) (msgs segs : List Bytes) (r : Bytes)
    (hitem : ∀ m ∈ msgs, IsItem wf m) (hmax : ∀ m ∈ msgs, m.length ≤ maxReadBuffer)
    (hcut : segs.flatten ++ r = msgs.flatten) :
    ∃ rest, msgs = (readAll wf segs).msgs ++ rest ∧ (readAll wf segs).err = none := by
  obtain ⟨ms1, ms2, p, e1, _, hd⟩ := drain_prefix L msgs hitem hmax segs.flatten r hcut
  rw [readAll_eq_drain L msgs segs r hitem hmax hcut, hd]
  exact ⟨ms2, by simp [toState, RState.msgs, e1], rfl⟩

/-! ### The hypotheses are satisfiable: a one-byte-length-prefixed format -/

/-- `[len, b₁ … b_len]` -/
def wfLen1 : Bytes → Res
  | [] => .needMore
  | l :: rest => if l.toNat ≤ rest.length then .ok (l.toNat + 1) else .needMore

theorem wfLen1_ok {b : Bytes} {n : Nat} :
    wfLen1 b = .ok n ↔ ∃ l rest, b = l :: rest ∧ l.toNat ≤ rest.length ∧ n = l.toNat + 1 := by
  cases b with
  | nil => simp [wfLen1]
  | cons l rest =>
    by_cases h : l.toNat ≤ rest.length <;> simp [wfLen1, h, eq_comm (a := n), and_assoc]

theorem wfLen1_laws : Laws wfLen1 where
  consumes_le := by
    intro b n h
    obtain ⟨l, rest, rfl, hl, rfl⟩ := wfLen1_ok.mp h
    simp only [List.length_cons]; omega
  unique := by
    intro b n r h
    obtain ⟨l, rest, rfl, hl, rfl⟩ := wfLen1_ok.mp h
    exact wfLen1_ok.mpr ⟨l, rest.take l.toNat ++ r, rfl, by simp; omega, rfl⟩
  pref := by
    intro b n h k hk
    obtain ⟨l, rest, rfl, hl, rfl⟩ := wfLen1_ok.mp h
    cases k with
    | zero => rfl
    | succ k' =>
      have : ¬ l.toNat ≤ (rest.take k').length := by simp only [List.length_take]; omega
      simp only [List.take_succ_cons, wfLen1, if_neg this]

/-- Non-vacuity: concrete messages in that format, cut 3/2/3 across a message boundary. -/
example : IsItem wfLen1 [2, 7, 7] ∧ IsItem wfLen1 [0] ∧ IsItem wfLen1 [3, 1, 2, 3] := by
  refine ⟨⟨by decide, by decide⟩, ⟨by decide, by decide⟩, ⟨by decide, by decide⟩⟩

example : (readAll wfLen1 [[2, 7], [7, 0, 3], [1, 2, 3]]).msgs = [[2, 7, 7], [0], [3, 1, 2, 3]] :=
  (reassemble_id wfLen1 wfLen1_laws _ [[2, 7], [7, 0, 3], [1, 2, 3]]
    (by unfold IsItem; decide) (by decide) (by decide)).1

end GV.Props.C10
