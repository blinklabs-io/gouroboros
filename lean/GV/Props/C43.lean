import GV.Proofs.PipelineDrain
/-!
C43 — Draining the pipeline really waits for in-flight blocks.

When waiting for the pipeline to drain returns successfully, every block submitted before
the wait began has finished processing (applied or failed), and no apply call for such a
block happens afterwards. This is what makes a chain-sync rollback safe.

`WaitForDrain` returns nil exactly when a `PendingCount()` read returned 0. In the model
(`GV.Model.Pipeline`) `pendingCount s = seqCounter s - processed s` mirrors `PendingCount` after
the `fix:` commit (sequenceCounter minus the sequence numbers the apply stage is done with;
`seqCounter s` is `counter`, plus one while a submitter holds the turn);
`processed s` counts the blocks that have left the apply stage (ApplyFunc returned, or the
block was skipped because it failed an earlier stage). The theorems quantify over all
schedules: any number of workers, blocks held anywhere for any time. The proofs rest on the
history invariant `Hist` alone, which holds before and after the repair of `Submit`.
-/
namespace GV.Props.C43
open GV.Model.Pipeline GV.Proofs.Pipeline

/-- core: if the apply stage is done with every accepted block, nothing accepted so far is
    applied later (before and after the repair of `Submit`) -/
theorem drain_core (c : Cfg) (s : St) (hr : Reachable c s) (h0 : s.counter - processed s = 0) :
    processed s = s.counter ∧
    ∀ es s', run c s es = some s' →
      ∃ rest, s'.applied = s.applied ++ rest ∧ ∀ q ∈ rest, s.counter ≤ q := by
  have hh := hist_reachable c s hr
  have heq : processed s = s.counter :=
    Nat.le_antisymm (Nat.le_trans (processed_le_decided hh) hh.decided_le) (Nat.le_of_sub_eq_zero h0)
  exact ⟨heq, fun es s' hrun => heq ▸ run_applied_after hh hrun⟩

/-- In any reachable state in which `PendingCount()` is 0:
    (1) the apply stage is done with as many sequence numbers as accepted blocks have been given
        (`processed s = s.counter`);
    (2) in every continuation of the schedule, ApplyFunc is only ever called for blocks
        accepted later (sequence number `≥ counter`). -/
theorem drain_sound (c : Cfg) (hc : c.legacy = false) (s : St) (hr : Reachable c s)
    (h0 : pendingCount s = 0) :
    processed s = s.counter ∧
    ∀ es s', run c s es = some s' →
      ∃ rest, s'.applied = s.applied ++ rest ∧ ∀ q ∈ rest, s.counter ≤ q :=
  drain_core c s hr (by unfold pendingCount seqCounter at h0; omega)

/-- With `PendingCount() = 0` and the pipeline not being stopped, what has been applied is
    exactly the good blocks among ALL accepted ones: nothing submitted before is outstanding. -/
theorem drained_all_applied (c : Cfg) (hc : c.legacy = false) (s : St) (hr : Reachable c s)
    (hcn : s.cancelled = false) (h0 : pendingCount s = 0) :
    s.applied = okSeqs c s.subs := by
  have hh := hist_reachable c s hr
  -- `decided s` lies between `processed s` and `counter`, which are equal
  have hd : decided s = s.counter :=
    Nat.le_antisymm hh.decided_le ((drain_sound c hc s hr h0).1 ▸ processed_le_decided hh)
  rw [hh.applied.eq hcn, hd, ← hh.subs_length, List.take_length]

/-- the reported count is never below the true one at the moment of the first read -/
theorem pending_count_never_under_reports (c : Cfg) (s s' : St) (n : Nat) (hr : Reachable c s)
    (hret : step c s (.pb n) = some s') :
    ∃ s0 es0, Reachable c s0 ∧ run c s0 es0 = some s ∧ s0.counter - processed s0 ≤ n := by
  cases Step.of_step hret with
  | pb hp =>
    obtain ⟨s0, es0, hr0, hp0, hrun0⟩ := reads_origin c s hr _ (List.mem_of_find?_eq_some hp)
    exact ⟨s0, es0, hr0, hrun0, hp0 ▸ by simpa using List.find?_some hp⟩

/-- `PendingCount()` is not atomic: it reads the apply stage's processed count (`pa`, under the
    stage's mutex) and afterwards the sequence counter (`pb`). `wait_for_drain_sound`: whenever
    such a call reports 0 — which is when `WaitForDrain` returns nil — the run went through a state
    `s0` (the moment of the first read) in which every block accepted so far had left the apply
    stage, and from `s0` on — in particular after the call returns, and in every continuation —
    ApplyFunc is only called for blocks accepted after `s0`. Blocks submitted before the wait
    began were accepted before `s0`. -/
theorem wait_for_drain_sound (c : Cfg) (hc : c.legacy = false) (s s' : St) (hr : Reachable c s)
    (hret : step c s (.pb 0) = some s') :
    ∃ s0 es0, Reachable c s0 ∧ run c s0 es0 = some s ∧ processed s0 = s0.counter ∧
      ∀ es s'', run c s es = some s'' →
        ∃ rest, s''.applied = s0.applied ++ rest ∧ ∀ q ∈ rest, s0.counter ≤ q := by
  obtain ⟨s0, es0, hr0, hrun0, hp0⟩ := pending_count_never_under_reports c s s' 0 hr hret
  obtain ⟨hproc, hfut⟩ := drain_core c s0 hr0 (Nat.le_zero.mp hp0)
  exact ⟨s0, es0, hr0, hrun0, hproc, fun es s'' hrun =>
    hfut (es0 ++ es) s'' (by rw [run_append, hrun0]; exact hrun)⟩

/-- `PendingCount` as it was before the repair (channel lengths + pending map + inFlight) does
    not count a block held by a decode worker: after `sub, dt` the old count is 0 — WaitForDrain
    would return — and the continuation `dp, at, aq, ap` applies the block afterwards. -/
theorem legacy_pending_count_misses_worker :
    (run ⟨false, false⟩ init [.start, .enter, .acq ⟨0, true, true⟩, .sub ⟨0, true, true⟩, .dt ⟨0, true, true⟩]).map
      (fun s => (pendingCountLegacy s, pendingCount s, s.decW.map Item.seq, s.applied,
        (run ⟨false, false⟩ s [.dp ⟨0, true, true⟩, .at_ ⟨0, true, true⟩, .aq ⟨0, true, true⟩,
          .ap ⟨0, true, true⟩]).map (·.applied)))
      = some (0, 1, [0], [], some [0]) := by decide

/-- the same for a block in the apply runner's hand (received, `ProcessWithStatus` not yet entered) -/
theorem legacy_pending_count_misses_runner_hand :
    (run ⟨false, false⟩ init
      [.start, .enter, .acq ⟨0, true, true⟩, .sub ⟨0, true, true⟩, .dt ⟨0, true, true⟩, .dp ⟨0, true, true⟩, .at_ ⟨0, true, true⟩]).map
      (fun s => (pendingCountLegacy s, pendingCount s)) = some (0, 1) := by decide

/-- Non-vacuity of `wait_for_drain_sound`: a block is submitted between the two reads of a
    PendingCount call that started on an empty pipeline: the call reports 1 (over-count), a second
    call after the block was skipped reports 0. -/
example :
    (run ⟨false, false⟩ init
      [.start, .pa 0, .enter, .acq ⟨0, false, false⟩, .sub ⟨0, false, false⟩, .pb 1, .dt ⟨0, false, false⟩, .dp ⟨0, false, false⟩,
       .at_ ⟨0, false, false⟩, .aq ⟨0, false, false⟩, .pa 0, .ad ⟨0, false, false⟩, .pb 1, .pa 1, .pb 0]).map
      (fun s => (s.reads, pendingCount s)) = some ([], 0) := by decide

/-- Non-vacuity of `drain_sound`: a reachable state with two accepted blocks and count 0. -/
example :
    (run ⟨false, false⟩ init
      [.start, .enter, .acq ⟨0, true, true⟩, .sub ⟨0, true, true⟩, .enter, .acq ⟨1, false, false⟩, .sub ⟨1, false, false⟩, .dt ⟨0, true, true⟩, .dp ⟨0, true, true⟩,
       .at_ ⟨0, true, true⟩, .aq ⟨0, true, true⟩, .ap ⟨0, true, true⟩, .ad ⟨0, true, true⟩,
       .rs ⟨0, true, true⟩, .dt ⟨1, false, false⟩, .dp ⟨1, false, false⟩, .at_ ⟨1, false, false⟩,
       .aq ⟨1, false, false⟩, .ad ⟨1, false, false⟩]).map
      (fun s => (pendingCount s, s.counter, s.applied)) = some (0, 2, [0]) := by decide

end GV.Props.C43
