/-
  Step systems. Most concurrent subsystems are modelled as a partial step function
  `step : S → A → Option S` and a `run` over schedules that stops at the first event that is
  not enabled; that `run` is `List.foldlM step` (each model proves its own `run_eq_foldlM`,
  since its `run` is a recursion of its own). What holds of all of them is stated here once,
  on `foldlM`; `run_append` is core's `List.foldlM_append`. A model whose step is total runs
  under `List.foldl`: `foldl_invariant`, `foldl_fixed`.
-/
namespace GV.StepSystem

variable {S S' A : Type} {step : S → A → Option S} {step' : S' → A → Option S'}

theorem foldlM_invariant {P : S → Prop} :
    ∀ (as : List A), (∀ s a s', a ∈ as → P s → step s a = some s' → P s') →
      ∀ {s s' : S}, P s → as.foldlM step s = some s' → P s'
  | [], _, _, _, h0, h => by cases h; exact h0
  | a :: as, hstep, s, s', h0, h => by
    rw [List.foldlM_cons, Option.bind_eq_bind, Option.bind_eq_some_iff] at h
    obtain ⟨s1, hs, h⟩ := h
    exact foldlM_invariant as (fun s a s' ha => hstep s a s' (List.mem_cons_of_mem _ ha))
      (hstep s a s1 List.mem_cons_self h0 hs) h

theorem foldlM_rel {R : S → S' → Prop}
    (hstep : ∀ s q a, R s q → Option.Rel R (step s a) (step' q a)) :
    ∀ (as : List A) {s : S} {q : S'}, R s q → Option.Rel R (as.foldlM step s) (as.foldlM step' q)
  | [], _, _, h0 => .some h0
  | a :: as, s, q, h0 => by
    rw [List.foldlM_cons, List.foldlM_cons]
    have h := hstep s q a h0
    generalize step s a = x, step' q a = y at h
    cases h with
    | none => exact .none
    | some h1 => exact foldlM_rel hstep as h1

theorem Rel.isSome_eq {R : S → S' → Prop} {x : Option S} {y : Option S'} (h : Option.Rel R x y) :
    x.isSome = y.isSome := by cases h <;> rfl

theorem foldl_invariant {step : S → A → S} {P : S → Prop} :
    ∀ (as : List A), (∀ s a, a ∈ as → P s → P (step s a)) → ∀ {s : S}, P s → P (as.foldl step s)
  | [], _, _, h0 => h0
  | a :: as, hstep, s, h0 =>
    foldl_invariant as (fun s a ha => hstep s a (List.mem_cons_of_mem _ ha))
      (hstep s a List.mem_cons_self h0)

theorem foldl_fixed {step : S → A → S} {s : S} (h : ∀ a, step s a = s) (as : List A) : as.foldl step s = s :=
  foldl_invariant (P := (· = s)) as (fun _ a _ hs => hs ▸ h a) rfl

end GV.StepSystem
