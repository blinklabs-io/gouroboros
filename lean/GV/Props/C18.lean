import GV.Model.Handshake
import GV.Model.HandshakeDelivery
import GV.Proofs.Handshake
import GV.Proofs.VersionTable
import GV.Proofs.WellFormed
import GV.Lib.VersionTable
import GV.Gen.HandshakeSends
import GV.Proofs.StepSystem
/-!
C18 — Version negotiation agrees on the best common version.

When two endpoints handshake, either both finish with the same protocol version, which is the
highest version both offered and whose network magic matches, or the responder refuses and the
initiator reports the refusal. A version-mismatch refusal lists the responder's versions in
ascending order, and a query-mode handshake returns the responder's table without selecting a
version.

`serverNegotiate` mirrors `handshake.Server.handleProposeVersions`, `clientHandle` the client's
message handler; Go maps are lists in arbitrary order and every statement is for all orders.
-/
namespace GV.Props.C18
open GV.Model.VersionData GV.Model.Handshake GV.Proofs.Handshake

theorem serverNegotiate_cases (lk : Lookup) (S : VMap) (P : RawMap) :
    match serverNegotiate lk S P with
    | .queryReply t => t = S
    | .refuse (.versionMismatch l) => l = sortAsc (keys S) ∧ ∀ v ∈ keys P, v ∉ keys S
    | .accept v own peer =>
      v ∈ keys S ∧ v ∈ keys P ∧ (∀ w, w ∈ keys S → w ∈ keys P → w ≤ v) ∧
      lookupMap S v = some own ∧ peer.networkMagic = own.networkMagic ∧
      ∃ k, lk v = some k ∧ (lookupMap P v).bind (decode k) = some peer
    | _ => True := by
  have hinter : ∀ v, v ∈ (keys P).filter (fun v => (lookupMap S v).isSome) ↔ v ∈ keys P ∧ v ∈ keys S :=
    fun v => by rw [List.mem_filter, lookupMap_isSome_iff]
  fun_cases serverNegotiate lk S P
  -- a query
  case case1 => rfl
  -- no common version
  case case2 inter he =>
    refine ⟨rfl, fun v hP hS => ?_⟩
    have : v ∈ inter := (hinter v).mpr ⟨hP, hS⟩
    rw [List.isEmpty_iff.mp he] at this
    cases this
  -- every test passed for the greatest common version
  case case7 inter he v own hs k hk peer hd hm =>
    obtain ⟨hvP, hvS⟩ := (hinter v).mp (maxOf_mem inter (mt List.isEmpty_iff.mpr he))
    exact ⟨hvS, hvP, fun w hS hP => maxOf_ge inter w ((hinter w).mpr ⟨hP, hS⟩), hs, Decidable.not_not.mp hm,
      k, hk, hd⟩
  -- the other refusals and the panic
  all_goals trivial

/-- The accepted version is offered by both sides, is the greatest such version, the responder
    answers with its own entry for it, and the initiator's data for it (decoded with that version's
    decoder) carries the same network magic. For every decoder table, responder table and every
    proposal map (arbitrary bytes, arbitrary order). -/
theorem accept_is_max_common (lk : Lookup) (S : VMap) (P : RawMap) (v : Nat) (own peer : VData)
    (h : serverNegotiate lk S P = .accept v own peer) :
    v ∈ keys S ∧ v ∈ keys P ∧ (∀ w, w ∈ keys S → w ∈ keys P → w ≤ v) ∧
    lookupMap S v = some own ∧ peer.networkMagic = own.networkMagic ∧
    ∃ k, lk v = some k ∧ (lookupMap P v).bind (decode k) = some peer := by
  have := serverNegotiate_cases lk S P
  rwa [h] at this

/-- A version-mismatch refusal happens only when no proposed version is known to the responder,
    and lists exactly the responder's versions in ascending order. -/
theorem mismatch_sorted (lk : Lookup) (S : VMap) (P : RawMap) (l : List Nat)
    (h : serverNegotiate lk S P = .refuse (.versionMismatch l)) :
    l.Pairwise (· ≤ ·) ∧ l.Perm (keys S) ∧ ∀ v ∈ keys P, v ∉ keys S := by
  have := serverNegotiate_cases lk S P
  rw [h] at this
  obtain ⟨rfl, he⟩ := this
  exact ⟨sortAsc_pairwise _, sortAsc_perm _, he⟩

/-- The listed versions do not depend on the iteration order of the responder's map. -/
theorem mismatch_list_order_independent (S S' : VMap) (hp : (keys S').Perm (keys S)) :
    sortAsc (keys S') = sortAsc (keys S) := by
  apply List.Perm.eq_of_pairwise (le := fun a b => a ≤ b)
  · intro a b _ _ hab hba; omega
  · exact sortAsc_pairwise _
  · exact sortAsc_pairwise _
  · exact ((sortAsc_perm _).trans hp).trans (sortAsc_perm _).symm

/-- Query mode: if some proposed entry decodes to data with the query flag, the responder answers
    with its whole table and selects nothing (the outcome is not an acceptance), whatever else
    was proposed. -/
theorem query_returns_table (lk : Lookup) (S : VMap) (P : RawMap) (hq : queryRequested lk P = true) :
    serverNegotiate lk S P = .queryReply S ∧
    (serverNegotiate lk S P).msg? = some (.queryReply (encodeMap S)) ∧
    ∀ C, ∃ t, clientHandle lk C (.queryReply (encodeMap S)) = .queryDone t := by
  unfold serverNegotiate
  simp only [hq, ↓reduceIte, SOut.msg?, true_and]
  intro C; exact ⟨_, rfl⟩

/-- A table is honest w.r.t. the decoder table when every entry is well formed and of the Go type
    its version's decoder produces (true of every generated table: `generated_honest` below). -/
def Honest (lk : Lookup) (m : VMap) : Prop := ∀ p ∈ m, lk p.1 = some p.2.kind ∧ p.2.wf

/-- The initiator decodes the responder's query reply back to the responder's table. -/
theorem query_table_roundtrip (lk : Lookup) (S : VMap) (hS : Honest lk S) :
    decodeTable lk (encodeMap S) = S := by
  induction S with
  | nil => rfl
  | cons p t ih =>
    obtain ⟨hk, hwf⟩ := hS p List.mem_cons_self
    simp only [decodeTable, encodeMap, List.map_cons, List.filterMap_cons, hk, decode_encode_self p.2 hwf,
      Option.map_some]
    exact congrArg _ (ih fun q hq => hS q (List.mem_cons_of_mem _ hq))

theorem Honest.decode {lk : Lookup} {m : VMap} (h : Honest lk m) {v : Nat} {d : VData} {k : Kind}
    (hl : lookupMap m v = some d) (hk : lk v = some k) : decode k (encode d) = some d := by
  obtain ⟨h1, h2⟩ := h (v, d) (lookupMap_some_mem hl)
  cases hk.symm.trans h1
  exact decode_encode_self d h2

/-- **Both sides agree.** Between an honest initiator proposing `C` and an honest responder with
    table `S`: if the responder accepts `v`, the initiator finishes with the same `v` (and the
    responder's data for it). -/
theorem both_agree_fwd (lk : Lookup) (C S : VMap) (hC : Honest lk C) (hS : Honest lk S)
    (v : Nat) (own peer : VData) (h : (handshake lk C S).1 = .accept v own peer) :
    (handshake lk C S).2 = some (.finished v own) := by
  unfold handshake at h ⊢
  simp only at h ⊢
  obtain ⟨_, _, _, hown, hmagic, k, hk, hdec⟩ := accept_is_max_common lk S (encodeMap C) v own peer h
  rw [h]
  -- the initiator's entry decodes to what the responder saw, the responder's to what it answers
  rw [lookupMap_encodeMap] at hdec
  cases hc : lookupMap C v with
  | none => simp [hc] at hdec
  | some c =>
    rw [hc, Option.map_some, Option.bind_some, hC.decode hc hk] at hdec
    cases hdec
    exact congrArg some ((clientHandleAccept_finished lk C v (encode own) v own).mpr
      ⟨rfl, peer, k, hc, hk, hS.decode hown hk, hmagic.symm⟩)

/-- Conversely the initiator finishes only with a version the responder accepted. -/
theorem both_agree_bwd (lk : Lookup) (C S : VMap) (v : Nat) (d : VData)
    (h : (handshake lk C S).2 = some (.finished v d)) :
    ∃ own peer, (handshake lk C S).1 = .accept v own peer := by
  unfold handshake at h ⊢
  simp only at h ⊢
  generalize serverNegotiate lk S (encodeMap C) = so at h ⊢
  cases so with
  | accept v0 own peer =>
    obtain ⟨rfl, _⟩ := (clientHandleAccept_finished lk C v0 (encode own) v d).mp (Option.some.inj h)
    exact ⟨own, peer, rfl⟩
  | _ => cases h

/-- Refusals are reported: whatever refusal the responder sends is what the initiator's handler
    returns as its (typed) error. -/
theorem refusal_reported (lk : Lookup) (C S : VMap) (r : Refuse)
    (h : (handshake lk C S).1 = .refuse r) : (handshake lk C S).2 = some (.refusedErr r) := by
  unfold handshake at h ⊢
  simp only at h ⊢
  rw [h]; rfl

/-- **The generated tables are honest** (hypothesis of `both_agree_fwd`, `query_table_roundtrip`):
    every map `GetProtocolVersionMap*` builds, restricted to any subset of its versions in any
    order, with any magic < 2^32 and any flags, is `Honest` for the decoder table of the
    running code (regenerated). -/
theorem generated_honest (shape : List (Nat × Nat)) (hs : shape ∈ GV.Proofs.VersionTable.shapes)
    (ks : List Nat) (magic : Nat) (hm : magic < 4294967296) (dm ps q : Bool) (m : VMap)
    (h : GV.Lib.VersionTable.genMap shape ks magic dm ps q = some m) :
    Honest GV.Lib.VersionTable.lk m := by
  induction ks generalizing m with
  | nil => cases h; intro p hp; cases hp
  | cons v vs ih =>
    obtain ⟨kn, k, m', hl, hk, hr, rfl⟩ := GV.Proofs.VersionTable.genMap_cons h
    intro p hp
    rcases List.mem_cons.mp hp with rfl | hp
    · have := (GV.Proofs.VersionTable.shape_kinds_match shape hs (v, kn) (lookupMap_some_mem hl)).1
      exact ⟨by rw [GV.Proofs.VersionTable.genEntry_kind, this, hk],
        GV.Proofs.VersionTable.genEntry_wf k magic hm dm ps q⟩
    · exact ih m' hr p hp

/-- Both sides agree, for the real tables: any two generated maps (any subsets, magics, flags). -/
theorem both_agree_generated
    (sc ss : List (Nat × Nat)) (hsc : sc ∈ GV.Proofs.VersionTable.shapes) (hss : ss ∈ GV.Proofs.VersionTable.shapes)
    (kc ks : List Nat) (mc ms : Nat) (hmc : mc < 4294967296) (hms : ms < 4294967296)
    (dmc psc qc dms pss qs : Bool) (C S : VMap)
    (hC : GV.Lib.VersionTable.genMap sc kc mc dmc psc qc = some C)
    (hS : GV.Lib.VersionTable.genMap ss ks ms dms pss qs = some S)
    (v : Nat) (own peer : VData) (h : (handshake GV.Lib.VersionTable.lk C S).1 = .accept v own peer) :
    (handshake GV.Lib.VersionTable.lk C S).2 = some (.finished v own) :=
  both_agree_fwd _ C S (generated_honest sc hsc kc mc hmc dmc psc qc C hC)
    (generated_honest ss hss ks ms hms dms pss qs S hS) v own peer h

/-! ### the message-decoding stage in front of both handlers -/

theorem encodeMap_all_wellFormed (lk : Lookup) (m : VMap) (h : Honest lk m) :
    (encodeMap m).all (fun p => wellFormedOne p.2) = true := by
  unfold encodeMap
  rw [List.all_eq_true]
  intro p hp
  obtain ⟨e, he, rfl⟩ := List.mem_map.mp hp
  exact GV.Proofs.WellFormed.encode_wellFormed e.2 (h e he).2

/-- An honest initiator's proposal always passes message decoding: the responder's handler runs
    on it (`handshake` may skip the decoding stage). -/
theorem honest_proposal_decodes (lk : Lookup) (S C : VMap) (hC : Honest lk C) :
    serverReceive lk S (encodeMap C) = some (serverNegotiate lk S (encodeMap C)) := by
  unfold serverReceive
  rw [encodeMap_all_wellFormed lk C hC]; rfl

/-- Whatever an honest responder sends passes message decoding at the initiator: its handler runs. -/
theorem honest_reply_decodes (lk : Lookup) (C S : VMap) (P : RawMap) (hS : Honest lk S) (m : SMsg)
    (hm : (serverNegotiate lk S P).msg? = some m) : clientReceive lk C m = clientHandle lk C m := by
  have hwf : m.wellFormed = true := by
    have hso := serverNegotiate_cases lk S P
    generalize serverNegotiate lk S P = so at hm hso
    cases so with
    | queryReply t =>
      -- the responder's table
      cases hm
      cases hso
      exact encodeMap_all_wellFormed lk S hS
    | refuse r => cases hm; rfl
    | accept v own peer =>
      -- the responder's own entry
      cases hm
      obtain ⟨_, _, _, hown, _⟩ := hso
      exact GV.Proofs.WellFormed.encode_wellFormed own (hS (v, own) (lookupMap_some_mem hown)).2
    | panic => cases hm
  unfold clientReceive
  simp [hwf]

/-! ### independence of Go map iteration order (both maps) -/

/-- outcomes equal up to the order in which the responder's own table is listed -/
def SOut.sameAs : SOut → SOut → Prop
  | .queryReply t, .queryReply t' => t.Perm t'
  | a, b => a = b

def COut.sameAs : COut → COut → Prop
  | .queryDone t, .queryDone t' => t.Perm t'
  | a, b => a = b

theorem SOut.sameAs_refl (a : SOut) : SOut.sameAs a a := by
  cases a <;> simp [SOut.sameAs]

theorem COut.sameAs_refl (a : COut) : COut.sameAs a a := by
  cases a <;> simp [COut.sameAs]

theorem SOut.sameAs_cases (a b : SOut) (h : SOut.sameAs a b) :
    (∃ t t', a = .queryReply t ∧ b = .queryReply t' ∧ t.Perm t') ∨ a = b := by
  cases a <;> cases b <;> simp_all [SOut.sameAs]

/-- **Permutation invariance of the responder.** Whatever order the proposal map and the
    responder's own map are iterated in (maps have distinct keys), the outcome is the same
    (a query reply carries the same table, as a map). -/
theorem negotiate_perm_invariant (lk : Lookup) (S S' : VMap) (P P' : RawMap)
    (hS : S'.Perm S) (hP : P'.Perm P) (hnS : (keys S).Nodup) (hnP : (keys P).Nodup) :
    SOut.sameAs (serverNegotiate lk S' P') (serverNegotiate lk S P) := by
  have hq : queryRequested lk P' = queryRequested lk P := hP.any_eq
  have hinter (p : Nat → Bool) : ((keys P').filter p).Perm ((keys P).filter p) := (hP.map _).filter p
  -- everything the responder computes is the same, except the table a query reply carries
  simp only [serverNegotiate, hq, lookupMap_perm hS hnS, lookupMap_perm hP hnP, (hinter _).isEmpty_eq,
    maxOf_perm (hinter _), mismatch_list_order_independent S S' (hS.map _)]
  by_cases hqq : queryRequested lk P = true
  · rw [if_pos hqq, if_pos hqq]; exact hS
  · rw [if_neg hqq, if_neg hqq]; exact SOut.sameAs_refl _

/-- The initiator's handler does not depend on the order of its own map either. -/
theorem client_perm_invariant (lk : Lookup) (C C' : VMap) (hC : C'.Perm C) (hn : (keys C).Nodup)
    (msg : SMsg) : clientHandle lk C' msg = clientHandle lk C msg := by
  cases msg with
  | accept v data => simp only [clientHandle, clientHandleAccept, lookupMap_perm hC hn v]
  | refuse r => rfl
  | queryReply t => rfl

/-- **Permutation invariance of the whole handshake** between an initiator proposing `C` and a
    responder with `S`: both ends' outcomes are independent of the iteration order of both maps. -/
theorem handshake_perm_invariant (lk : Lookup) (C C' S S' : VMap)
    (hC : C'.Perm C) (hS : S'.Perm S) (hnC : (keys C).Nodup) (hnS : (keys S).Nodup) :
    SOut.sameAs (handshake lk C' S').1 (handshake lk C S).1 ∧
    (match (handshake lk C' S').2, (handshake lk C S).2 with
     | some a, some b => COut.sameAs a b
     | none, none => True
     | _, _ => False) := by
  have hP : (encodeMap C').Perm (encodeMap C) := hC.map _
  have hnP : (keys (encodeMap C)).Nodup := by rw [keys_encodeMap]; exact hnC
  have hs := negotiate_perm_invariant lk S S' (encodeMap C) (encodeMap C') hS hP hnS hnP
  unfold handshake
  refine ⟨hs, ?_⟩
  simp only
  generalize serverNegotiate lk S' (encodeMap C') = a at hs
  generalize serverNegotiate lk S (encodeMap C) = b at hs
  rcases SOut.sameAs_cases a b hs with ⟨t, t', rfl, rfl, hp⟩ | rfl
  · simp only [SOut.msg?, Option.map_some, clientHandle, COut.sameAs]
    unfold decodeTable encodeMap
    exact (hp.map _).filterMap _
  · cases hm : a.msg? with
    | none => simp
    | some msg =>
      simp only [Option.map_some]
      rw [client_perm_invariant lk C C' hC hnC]
      exact COut.sameAs_refl _

/-! ### delivery of the responder's reply (the defect repaired by the server `fix:`) -/

section Delivery
open GV.Model.HandshakeDelivery

theorem step_cases {s s' : St} {a : Act} (h : step s a = some s') :
    (∃ m, s.waiting = some m ∧ m ∈ s.wire ∧ s' = { s with waiting := none }) ∨
    (s.waiting = none ∧ ∃ i r, s.prog = i :: r ∧ s' = match i with
        | .send m => { s with prog := r, queue := s.queue ++ [m] }
        | .sendWait m => { s with prog := r, queue := s.queue ++ [m], waiting := some m }
        | .returnErr => { s with prog := r, stopped := true }
        | .finish => { s with prog := r }) ∨
    (∃ m q, s.queue = m :: q ∧ s' = { s with queue := q, wire := s.wire ++ [m] }) ∨
    (s.stopped = true ∧ s' = { s with loopExited := true }) := by
  revert h
  fun_cases step s a <;> intro h <;> cases h
  -- `handler`, waiting for a message that is on the wire: it wakes up
  case case1 m hw hm => exact .inl ⟨m, hw, hm, rfl⟩
  -- `sendLoop`: the head of the queue is written
  case case10 m q hq => exact .inr (.inr (.inl ⟨m, q, hq, rfl⟩))
  -- `loopExit` after a stop
  case case11 hc => exact .inr (.inr (.inr ⟨(Bool.and_eq_true_iff.mp hc).1, rfl⟩))
  -- the handler's next instruction, whichever it is
  all_goals exact .inr (.inl ⟨‹_›, _, _, ‹_›, rfl⟩)

/-- invariant of the program `[sendWait m, returnErr]` -/
def WaitInv (m : SMsg) (s : St) : Prop :=
  m ∈ s.wire ∨ s.stopped = false ∧ (s.waiting = some m ∨ s.prog = [.sendWait m, .returnErr])

theorem waitInv_step (m : SMsg) (s s' : St) (a : Act) (hi : WaitInv m s) (h : step s a = some s') :
    WaitInv m s' := by
  rcases step_cases h with ⟨m', hw', hm', rfl⟩ | ⟨hw', i, r, hp', rfl⟩ | ⟨m', q, hq, rfl⟩ | ⟨hst, rfl⟩
  · -- the handler wakes up: what it waited for is on the wire
    rcases hi with hm | ⟨hs, hw | hp⟩
    · exact .inl hm
    · rw [hw] at hw'; cases hw'; exact .inl hm'
    · exact .inr ⟨hs, .inr hp⟩
  · -- the handler's next instruction: unless `m` is written it is the `sendWait`
    rcases hi with hm | ⟨hs, hw | hp⟩
    · exact .inl (by cases i <;> exact hm) -- no instruction touches the wire
    · rw [hw] at hw'; cases hw'
    · rw [hp] at hp'; cases hp'; exact .inr ⟨hs, .inl rfl⟩
  · -- the send loop writes: the wire grows
    exact hi.imp_left (List.mem_append_left _)
  · exact hi

theorem run_eq_foldlM (s : St) (sched : List Act) : run s sched = sched.foldlM step s := by
  fun_induction run s sched <;> simp [*]

theorem handlerProgram_reply {so : SOut} {m : SMsg} (hm : so.msg? = some m)
    (hstop : ∀ v own peer, so ≠ .accept v own peer) (w : Bool) :
    handlerProgram w so = [if w then .sendWait m else .send m, .returnErr] := by
  cases so with
  | queryReply t => cases hm; rfl
  | refuse r => cases hm; rfl
  | accept v own peer => exact absurd rfl (hstop v own peer)
  | panic => cases hm

/-- **The refusal / query reply is on the wire before the protocol stops.** With the replies
    that precede an error return sent by `SendMessageAndWait` (the code after the fix), in every
    schedule of handler, send loop and send-loop exit: whenever the protocol has been stopped,
    the reply has been written. -/
theorem reply_on_wire_before_stop (so : SOut) (m : SMsg) (hm : so.msg? = some m)
    (hstop : ∀ v own peer, so ≠ .accept v own peer)
    (sched : List Act) (s : St) (h : run (init (handlerProgram true so)) sched = some s)
    (hs : s.stopped = true) : m ∈ s.wire := by
  rw [handlerProgram_reply hm hstop] at h
  rcases GV.StepSystem.foldlM_invariant sched (fun s a s' _ => waitInv_step m s s' a)
    (.inr ⟨rfl, .inr rfl⟩) (run_eq_foldlM _ sched ▸ h) with hw | ⟨h3, _⟩
  · exact hw
  · rw [h3] at hs; cases hs

/-- An acceptance never stops the protocol (its reply is not in danger). -/
theorem accept_never_stops (v : Nat) (own peer : VData) (w : Bool) (sched : List Act) (s : St)
    (h : run (init (handlerProgram w (.accept v own peer))) sched = some s) : s.stopped = false := by
  -- only `returnErr` stops the protocol, and the acceptance's program has none
  refine (GV.StepSystem.foldlM_invariant (P := fun s => s.stopped = false ∧ Instr.returnErr ∉ s.prog) sched
    (fun s a s' _ hP hs => ?_) ⟨rfl, by simp [init, handlerProgram]⟩ (run_eq_foldlM _ sched ▸ h)).1
  obtain ⟨h0, hp⟩ := hP
  rcases step_cases hs with ⟨_, _, _, rfl⟩ | ⟨_, i, r, hpr, rfl⟩ | ⟨_, _, _, rfl⟩ | ⟨hst, rfl⟩
  · exact ⟨h0, hp⟩
  · rw [hpr] at hp
    have hr : Instr.returnErr ∉ r := fun hc => hp (List.mem_cons_of_mem _ hc)
    cases i with
    | returnErr => exact absurd List.mem_cons_self hp
    | _ => exact ⟨h0, hr⟩
  · exact ⟨h0, hp⟩
  · rw [h0] at hst; cases hst

/-- **The defect that was repaired**: with plain `SendMessage` (the code before the fix) there is
    a schedule — handler enqueues, handler returns the error, the send loop takes its stop branch —
    after which the protocol is stopped, the reply was never written and nothing can write it
    any more. -/
theorem old_code_loses_reply (so : SOut) (m : SMsg) (hm : so.msg? = some m)
    (hstop : ∀ v own peer, so ≠ .accept v own peer) :
    ∃ sched s, run (init (handlerProgram false so)) sched = some s ∧
      s.stopped = true ∧ m ∉ s.wire ∧ ∀ a, step s a = none := by
  rw [handlerProgram_reply hm hstop]
  exact ⟨[.handler, .handler, .loopExit], { prog := [], queue := [m], stopped := true, loopExited := true },
    rfl, rfl, List.not_mem_nil, fun a => by cases a <;> rfl⟩

/-- Regenerated tie (go/ast of handshake/server.go on every run): every send in
    `handleProposeVersions` that is followed by an error return uses `SendMessageAndWait`; there are
    six of them (query reply and five refusals) and the acceptance is the only plain send. -/
theorem server_waits_before_stopping :
    (∀ e ∈ GV.Gen.HandshakeSends.serverSends, e.2.2 = true → e.2.1 = "SendMessageAndWait") ∧
    (GV.Gen.HandshakeSends.serverSends.filter (fun e => e.2.2)).length = 6 ∧
    (GV.Gen.HandshakeSends.serverSends.filter (fun e => !e.2.2)).map (·.1) = ["msgAcceptVersion"] ∧
    (GV.Gen.HandshakeSends.serverSends.filter (fun e => e.1 == "msgQueryReply")).length = 1 := by
  refine ⟨?_, rfl, rfl, ?_⟩
  · simp [GV.Gen.HandshakeSends.serverSends]
  · simp [GV.Gen.HandshakeSends.serverSends]

end Delivery

/-- Non-vacuity on the regenerated tables: two NtN endpoints with overlapping subsets agree on 13. -/
example :
    let lk := GV.Lib.VersionTable.lk
    let C : VMap := [(11, genEntry .ntn11 7 true false false), (13, genEntry .ntn13 7 true false false)]
    let S : VMap := [(14, genEntry .ntn13 7 false true false), (13, genEntry .ntn13 7 false true false),
                     (12, genEntry .ntn11 7 false true false)]
    handshake lk C S =
      (.accept 13 (genEntry .ntn13 7 false true false) (genEntry .ntn13 7 true false false),
       some (.finished 13 (genEntry .ntn13 7 false true false))) := by decide

/-- Non-vacuity: disjoint tables are refused with the sorted list. -/
example :
    (handshake GV.Lib.VersionTable.lk [(7, genEntry .ntn7 7 true false false)]
      [(9, genEntry .ntn7 7 true false false), (8, genEntry .ntn7 7 true false false)]).2
      = some (.refusedErr (.versionMismatch [8, 9])) := by decide

end GV.Props.C18
