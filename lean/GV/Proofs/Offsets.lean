import GV.Model.Offsets
import GV.Proofs.CborBytes
import GV.Proofs.CborSpans
/-!
  The base of the C07 proofs. Every extractor either walks an array the way
  `cbor.Decode(&[]RawMessage)` sees it (header length + item lengths: `walk_children`,
  `ArrAt`) or loops over the children of an array/map with a stream decoder. All those loops
  have the same guard, so one invariant, `Walk`, a cursor over the child spans still ahead,
  serves them all; `container_walk` says what `cborArrayInfo`/`cborMapInfo` report on a
  container that parses and that the loop starts in a `Walk` over all its children.
-/

namespace GV.Model.Offsets
open GV.Cbor

theorem slice_length {b : Bytes} {o l : Nat} (h : o + l ≤ b.length) : (slice b o l).length = l := by
  simp only [slice, List.length_take, List.length_drop]; omega

theorem slice_le {b : Bytes} {M o l : Nat} (h : b.length ≤ M) : (slice b o l).length ≤ M := by
  simp only [slice, List.length_take, List.length_drop]; omega

theorem walk_children (b : Bytes) (base : Nat) : ∀ (cs : List (Nat × Nat)) (start : Nat),
    Contig start cs → InBounds b.length cs →
    walk (base + start) (cs.map fun p => slice b p.1 p.2) = cs.map fun p => (base + p.1, p.2) := by
  intro cs
  induction cs with
  | nil => intro start _ _; simp [walk]
  | cons p rest ih =>
    intro start hc hb
    obtain ⟨o, l⟩ := p
    simp only [Contig] at hc
    obtain ⟨rfl, hc⟩ := hc
    have hin : o + l ≤ b.length := hb (o, l) (List.mem_cons_self)
    simp only [List.map_cons, walk, slice_length hin]
    rw [Nat.add_assoc, ih (o + l) hc (fun p hp => hb p (List.mem_cons_of_mem _ hp))]

theorem beNat_append (a : Bytes) (x : UInt8) : beNat (a ++ [x]) = beNat a * 256 + x.toNat := by
  simp [beNat, List.foldl_append]

theorem skipItem_of_wf {x : Bytes} {l : Nat} (hw : wfItem x = .ok l) : skipItem x = some l := by
  simp [skipItem, hw]

theorem readUint_len {x : Bytes} {key kl l : Nat} (h : readUint x = some (key, kl))
    (hw : wfItem x = .ok l) : kl = l := by
  unfold readUint at h
  split at h
  next ai arg hlen hrh =>
    split at h
    next hai =>
      cases h
      exact Res.ok.inj ((wfItem_uint hrh hai).symm.trans hw)
    · cases h
  · cases h

/-- `cborArrayInfo` / `cborMapInfo` on an item whose head could be read. `harg`: the count fits
    `int32` (true for any block below 2 GiB). -/
theorem containerInfo_eq {major : Nat} {b : Bytes} {ai arg hlen : Nat}
    (hrh : readHead b = .mk major ai arg hlen) (hai : ai < 28 ∨ ai = 31) (harg : arg ≤ 2147483647) :
    containerInfo major b = if ai = 31 then (0, 1, true) else ((arg : Int), hlen, false) := by
  obtain ⟨x, tl, rfl, rfl, rfl, rfl, hal, rfl⟩ := readHead_eq_mk hrh
  clear hrh
  simp only [containerInfo, ne_eq, not_true_eq_false, if_false]
  generalize x.toNat % 32 = ai at *
  have hforms : ai ≤ 23 ∨ ai = 24 ∨ ai = 25 ∨ ai = 26 ∨ ai = 27 ∨ ai = 31 := by omega
  rcases hforms with h | rfl | rfl | rfl | rfl | rfl
  · have : ai < 24 ∧ ai ≠ 24 ∧ ai ≠ 25 ∧ ai ≠ 26 ∧ ai ≠ 27 ∧ ai ≠ 31 := by omega
    simp [argLen, h, this]
  all_goals
    simp [argLen] at hal harg
    simp [argLen, hal, Nat.not_lt.mpr harg]

theorem containerInfo_headerSize {major : Nat} {b : Bytes} {ai arg hlen : Nat}
    (hrh : readHead b = .mk major ai arg hlen) (hai : ai < 28 ∨ ai = 31) (harg : arg ≤ 2147483647) :
    (containerInfo major b).2.1 = hlen := by
  rw [containerInfo_eq hrh hai harg]
  split
  next h31 =>
    obtain ⟨_, _, _, _, _, rfl, _⟩ := readHead_eq_mk hrh
    subst h31
    rfl
  · rfl

/-! ### the cursor over the children of a container -/

/-- State of one of the Go loops over the children of an array or map: it stands at position
    `p` after `i` rounds, the child spans `cs` are still ahead, and the header's count leaves
    `n` more rounds (`cnt`; in an indefinite container `n` is not constrained here). How many
    spans make a round is the user's: `cs.length = n` for an array (`ArrAt.info`), `2 * n` for a
    map (`hlen` of `Walk.pairs`). -/
structure Walk (data : Bytes) (count : Nat) (indef : Bool) (p i n : Nat) (cs : List (Nat × Nat)) : Prop where
  contig : Contig p cs
  wf : ∀ s ∈ cs, wfItem (data.drop s.1) = .ok s.2
  cnt : indef = false → i + n = count
  brk : indef = true → ∃ tl, data.drop (p + sumLens cs) = (0xff : UInt8) :: tl

theorem child_not_break {data : Bytes} {p l : Nat} (hw : wfItem (data.drop p) = .ok l) :
    ¬ (p ≥ data.length ∨ (data.drop p).head? = some 0xff) := by
  have hl := wf_drop_le hw
  rintro (h | h)
  · omega
  · obtain ⟨tl, ht⟩ := List.head?_eq_some_iff.mp h
    exact wfItem_break_ne_ok tl l (ht ▸ hw)

section
variable {data : Bytes} {count : Nat} {indef : Bool} {p i n : Nat} {s : Nat × Nat} {cs : List (Nat × Nat)}

theorem Walk.skip (h : Walk data count indef p i n (s :: cs)) :
    s.1 = p ∧ wfItem (data.drop p) = .ok s.2 ∧ Walk data count indef (p + s.2) i n cs := by
  have hs := h.wf s (by simp)
  have hc := h.contig
  obtain ⟨o, l⟩ := s
  simp only [Contig] at hc
  obtain ⟨rfl, hc⟩ := hc
  refine ⟨rfl, hs, hc, fun q hq => h.wf q (by simp [hq]), h.cnt, fun hi => ?_⟩
  obtain ⟨tl, ht⟩ := h.brk hi
  exact ⟨tl, by simpa [sumLens, Nat.add_assoc] using ht⟩

theorem Walk.round (h : Walk data count indef p i (n + 1) cs) : Walk data count indef p (i + 1) n cs :=
  ⟨h.contig, h.wf, fun hi => by have := h.cnt hi; omega, h.brk⟩

/-- Induction over the rounds of a Go loop that walks a map: a key span `ks` and a value span `vs`
    per round; `fuel` is the recursion bound of the loop functions. -/
@[elab_as_elim]
theorem Walk.pairs {motive : (fuel p i : Nat) → List (Nat × Nat) → Prop}
    (stop : ∀ {fuel p i}, Walk data count indef p i 0 [] → motive (fuel + 1) p i [])
    (step : ∀ {fuel i n ks vs rest}, Walk data count indef ks.1 i (n + 1) (ks :: vs :: rest) →
      wfItem (data.drop ks.1) = .ok ks.2 →
      vs.1 = ks.1 + ks.2 → wfItem (data.drop (ks.1 + ks.2)) = .ok vs.2 →
      motive fuel (ks.1 + ks.2 + vs.2) (i + 1) rest → motive (fuel + 1) ks.1 i (ks :: vs :: rest))
    {fuel : Nat} (hlen : cs.length = 2 * n) (h : Walk data count indef p i n cs) (hf : n < fuel) :
    motive fuel p i cs := by
  induction n generalizing cs fuel p i with
  | zero =>
    obtain rfl : cs = [] := List.eq_nil_of_length_eq_zero hlen
    obtain ⟨fuel, rfl⟩ := Nat.exists_eq_succ_of_ne_zero (by omega : fuel ≠ 0)
    exact stop h
  | succ n ih =>
    match cs, hlen with
    | ks :: vs :: rest, hlen =>
      obtain ⟨rfl, hk, h1⟩ := h.skip
      obtain ⟨ev, hv, h2⟩ := h1.skip
      obtain ⟨fuel, rfl⟩ := Nat.exists_eq_succ_of_ne_zero (by omega : fuel ≠ 0)
      exact step h hk ev hv
        (ih (by simp only [List.length_cons] at hlen; omega) h2.round (by omega))

/-- The guard all five loops share: `i < count`, or "not at the break byte" in an indefinite
    container. -/
theorem Walk.stop {α : Type} (h : Walk data count indef p i 0 []) (a b : α) :
    (if indef = true then (if p ≥ data.length ∨ (data.drop p).head? = some 0xff then a else b)
     else if i < count then b else a) = a := by
  cases indef with
  | true =>
    obtain ⟨tl, ht⟩ := h.brk rfl
    simp only [sumLens, List.map_nil, List.sum_nil, Nat.add_zero] at ht
    simp [ht]
  | false => have := h.cnt rfl; simp; omega

theorem Walk.go {α : Type} (h : Walk data count indef p i (n + 1) (s :: cs)) (a b : α) :
    (if indef = true then (if p ≥ data.length ∨ (data.drop p).head? = some 0xff then a else b)
     else if i < count then b else a) = b := by
  cases indef with
  | true => simp only [if_true, child_not_break h.skip.2.1, if_false]
  | false => have := h.cnt rfl; simp; omega

end

/-- `n`: the rounds the loop will make, fewer than the fuel `data.length + 1` it is given. -/
theorem container_walk {data : Bytes} {m ai arg h : Nat} {cs : List (Nat × Nat)} {ind : Bool}
    (hc : childSpans data = some (h, cs, ind)) (hrh : readHead data = .mk m ai arg h)
    (hlen : data.length ≤ 2147483647) :
    ∃ n c : Nat, cs.length = (if m = 4 then n else 2 * n) ∧ n < data.length + 1 ∧
      containerInfo m data = ((c : Int), h, ind) ∧ Walk data c ind h 0 n cs := by
  have hk : ∀ n, n ≤ (if m = 4 then n else 2 * n) := fun n => by split <;> omega
  obtain ⟨_, hm, hind, hdef⟩ := childSpans_head hc hrh
  obtain ⟨hcontig, _, hwf, hcnt⟩ := childSpans_children hc
  cases ind with
  | true =>
    obtain rfl : ai = 31 := hind.mp rfl
    -- additional info 31 takes no argument bytes: `h = 1 + argLen 31 = 1`, `arg = beNat [] = 0`
    obtain ⟨x, tl, rfl, _, _, rfl, _, rfl⟩ := readHead_eq_mk hrh
    -- the rounds: all items of an array, half the items of a map
    obtain ⟨n, hn⟩ : ∃ n, cs.length = (if m = 4 then n else 2 * n) := by
      by_cases h4 : m = 4
      · exact ⟨cs.length, by rw [if_pos h4]⟩
      · have := childSpans_map_even hc (hm.resolve_left h4 ▸ hrh)
        exact ⟨cs.length / 2, by rw [if_neg h4]; omega⟩
    refine ⟨n, 0, hn, Nat.lt_succ_of_le (Nat.le_trans (hn ▸ hk n) hcnt), ?_, hcontig, hwf, nofun,
      fun _ => childSpans_indef_end hc⟩
    rw [containerInfo_eq hrh (.inr rfl) (by simp [argLen, beNat])]
    simp [argLen]
  | false =>
    obtain ⟨h28, hl⟩ := hdef rfl
    have harg : arg ≤ data.length := Nat.le_trans (hl ▸ hk arg) hcnt
    refine ⟨arg, arg, hl, Nat.lt_succ_of_le harg, ?_, hcontig, hwf, fun _ => by simp, nofun⟩
    rw [containerInfo_eq hrh (.inl h28) (Nat.le_trans harg hlen), if_neg (by omega)]

/-! ### arrays as `cbor.Decode(&[]RawMessage)` sees them -/

/-- For an array that parses, `cborArrayHeaderLen` is the actual header length —
    minimal, 1/2/4/8-byte argument or indefinite alike. -/
theorem arrayHeaderLen_actual {b : Bytes} {h : Nat} {cs : List (Nat × Nat)} {ind : Bool}
    (hc : childSpans b = some (h, cs, ind)) (harr : ∃ ai arg, readHead b = .mk 4 ai arg h)
    (hlen : b.length ≤ 2147483647) (n : Nat) : arrayHeaderLen b n = h := by
  obtain ⟨ai, arg, hrh⟩ := harr
  obtain ⟨_, _, _, _, hinfo, _⟩ := container_walk hc hrh hlen
  have := (readHead_bounds hrh).1
  simp only [arrayHeaderLen, arrayInfo, hinfo]
  split <;> omega

theorem rawItems_array {b : Bytes} {items : List Bytes} {ai arg hl : Nat}
    (hrh : readHead b = .mk 4 ai arg hl) (h : rawItems b = some items) :
    ∃ cs ind, childSpans b = some (hl, cs, ind) ∧ items = cs.map fun p => slice b p.1 p.2 := by
  unfold rawItems at h
  rw [hrh] at h
  cases hc : childSpans b with
  | none => simp [hc] at h
  | some r =>
    obtain ⟨h', cs, ind⟩ := r
    obtain ⟨rfl, _⟩ := childSpans_head hc hrh
    rw [hc] at h
    exact ⟨cs, ind, rfl, (Option.some.inj h).symm⟩

theorem array_walk_exact {a : Bytes} {items : List Bytes} {ai arg hl : Nat} (base n : Nat)
    (hrh : readHead a = .mk 4 ai arg hl) (h : rawItems a = some items)
    (hlen : a.length ≤ 2147483647) :
    ∃ cs ind, childSpans a = some (hl, cs, ind) ∧
      items = cs.map (fun p => slice a p.1 p.2) ∧
      walk (base + arrayHeaderLen a n) items = cs.map (fun p => (base + p.1, p.2)) ∧
      InBounds a.length cs := by
  obtain ⟨cs, ind, hc, hitems⟩ := rawItems_array hrh h
  have hk := childSpans_children hc
  refine ⟨cs, ind, hc, hitems, ?_, hk.inBounds⟩
  rw [arrayHeaderLen_actual hc ⟨ai, arg, hrh⟩ hlen n, hitems]
  exact walk_children a base cs hl hk.contig hk.inBounds

/-- `a` starts with an array that parses: header length `hl`, child spans `cs` -/
structure ArrAt (a : Bytes) (hl : Nat) (cs : List (Nat × Nat)) : Prop where
  head : ∃ ai arg, readHead a = .mk 4 ai arg hl
  kids : ∃ ind, childSpans a = some (hl, cs, ind)

theorem ArrAt.raw {a hl cs} (h : ArrAt a hl cs) : rawItems a = some (cs.map fun p => slice a p.1 p.2) := by
  obtain ⟨ai, arg, hrh⟩ := h.head
  obtain ⟨ind, hc⟩ := h.kids
  unfold rawItems; rw [hrh, hc]; rfl

theorem ArrAt.hdr {a hl cs} (h : ArrAt a hl cs) (hlen : a.length ≤ 2147483647) (n : Nat) :
    arrayHeaderLen a n = hl := by
  obtain ⟨ind, hc⟩ := h.kids
  exact arrayHeaderLen_actual hc h.head hlen n

theorem ArrAt.children {a hl cs} (h : ArrAt a hl cs) : Children a hl cs := by
  obtain ⟨ind, hc⟩ := h.kids
  exact childSpans_children hc

theorem ArrAt.info {a hl cs} (h : ArrAt a hl cs) (hlen : a.length ≤ 2147483647) :
    ∃ (c : Nat) (ind : Bool), cs.length < a.length + 1 ∧ arrayInfo a = ((c : Int), hl, ind) ∧
      Walk a c ind hl 0 cs.length cs := by
  obtain ⟨ai, arg, hrh⟩ := h.head
  obtain ⟨ind, hc⟩ := h.kids
  obtain ⟨n, c, hn, hf, hinfo, hw⟩ := container_walk hc hrh hlen
  obtain rfl : cs.length = n := hn
  exact ⟨c, ind, hf, hinfo, hw⟩

theorem walk_length (start : Nat) (l : List Bytes) : (walk start l).length = l.length := by
  induction l generalizing start with
  | nil => rfl
  | cons x xs ih => simp [walk, ih]

theorem bodiesOutputs_length (start : Nat) (l : List Bytes) :
    (bodiesOutputs start l).length = l.length := by
  induction l generalizing start with
  | nil => rfl
  | cons x xs ih => simp [bodiesOutputs, ih]

theorem zipLocs_proj (bs ws : List (Nat × Nat)) (os : List (List (Nat × Nat)))
    (md : List (Nat × Nat × Nat)) (i : Nat) (h1 : bs.length = ws.length) (h2 : bs.length = os.length) :
    (zipLocs bs ws os md i).map (·.body) = bs ∧ (zipLocs bs ws os md i).map (·.wit) = ws ∧
    (zipLocs bs ws os md i).map (·.outs) = os := by
  induction bs generalizing ws os i with
  | nil =>
    match ws, os, h1, h2 with
    | [], [], _, _ => exact ⟨rfl, rfl, rfl⟩
  | cons b bs ih =>
    match ws, os, h1, h2 with
    | w :: ws, o :: os, h1, h2 =>
      obtain ⟨e1, e2, e3⟩ := ih ws os (i + 1) (Nat.succ.inj h1) (Nat.succ.inj h2)
      simp only [zipLocs, List.map_cons, e1, e2, e3, and_self]

end GV.Model.Offsets
