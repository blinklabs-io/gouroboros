import GV.Proofs.Engine
/-!
  Two engines that run the same state machine, one as client and one as server
  ("the peer accepts the whole conversation", C12).

  Core of the argument: the sequence of transitions an engine has applied is an
  *agency-respecting merge* of the messages it sent and the messages it accepted, and such a
  merge is determined by agency (`Merge.unique`).  Hence if one side has applied a message it
  sent, the other side — when it gets to that message — is in the same state and cannot refuse it.
-/
namespace GV.Engine
open GV.SM

variable {m : Machine} {role : Nat}

/-- `tl` is an interleaving of `own` (taken where we hold agency) and `peer` (taken where the
    peer holds agency) that is a path of the machine from `q`. -/
def IsMerge (m : Machine) (role : Nat) : Nat → List Sym → List Sym → List Sym → Prop
  | _, [], own, peer => own = [] ∧ peer = []
  | q, a :: tl, own, peer =>
    ∃ q', m.step q a = some q' ∧
      ((ours m role q = true ∧ ∃ o', own = a :: o' ∧ IsMerge m role q' tl o' peer) ∨
       (peers m role q = true ∧ ∃ p', peer = a :: p' ∧ IsMerge m role q' tl own p'))

/-- `IsMerge` along a run that ends in `e`, as an inductive predicate. -/
inductive Merge (m : Machine) (role : Nat) : Nat → List Sym → List Sym → List Sym → Nat → Prop
  | nil {q : Nat} : Merge m role q [] [] [] q
  | own {q q' e : Nat} {a : Sym} {tl o p : List Sym} : m.step q a = some q' → ours m role q = true →
      Merge m role q' tl o p e → Merge m role q (a :: tl) (a :: o) p e
  | peer {q q' e : Nat} {a : Sym} {tl o p : List Sym} : m.step q a = some q' → peers m role q = true →
      Merge m role q' tl o p e → Merge m role q (a :: tl) o (a :: p) e

theorem isMerge_iff {q e : Nat} {tl own peer : List Sym} :
    IsMerge m role q tl own peer ∧ m.run q tl = some e ↔ Merge m role q tl own peer e := by
  constructor
  · rintro ⟨h, hr⟩
    induction tl generalizing q own peer with
    | nil =>
      obtain ⟨rfl, rfl⟩ := h
      cases hr
      exact .nil
    | cons a tl ih =>
      obtain ⟨q', hs, hcase⟩ := h
      simp only [Machine.run, hs] at hr
      rcases hcase with ⟨ho, o, rfl, h⟩ | ⟨hp, p, rfl, h⟩
      · exact .own hs ho (ih h hr)
      · exact .peer hs hp (ih h hr)
  · intro h
    induction h with
    | nil => exact ⟨⟨rfl, rfl⟩, rfl⟩
    | own hs ho _ ih => exact ⟨⟨_, hs, .inl ⟨ho, _, rfl, ih.1⟩⟩, by simp [Machine.run, hs, ih.2]⟩
    | peer hs hp _ ih => exact ⟨⟨_, hs, .inr ⟨hp, _, rfl, ih.1⟩⟩, by simp [Machine.run, hs, ih.2]⟩

theorem Merge.append {q e e' : Nat} {tl own peer tl' own' peer' : List Sym}
    (h : Merge m role q tl own peer e) (h' : Merge m role e tl' own' peer' e') :
    Merge m role q (tl ++ tl') (own ++ own') (peer ++ peer') e' := by
  induction h with
  | nil => exact h'
  | own hs ho _ ih => exact .own hs ho (ih h')
  | peer hs hp _ ih => exact .peer hs hp (ih h')

/-! ### engine invariants: the applied transitions are such a merge; a refused inbound message
    freezes the engine in the state that refused it -/
structure MergeInv (m : Machine) (role : Nat) (s : S) : Prop where
  merge : Merge m role m.init s.tlog s.sendTrans (s.hlog.map (·.2)) s.st
  rej : ∀ x, s.recvRej = some x → peers m role s.st = true ∧ m.step s.st x = none

theorem mergeInv_init : MergeInv m role (init m) :=
  ⟨.nil, fun x hx => by simp [init] at hx⟩

theorem mergeInv_step {s s' : S} {e : Ev} (hI : Inv m role s) (hi : MergeInv m role s)
    (h : Step m role s e s') : MergeInv m role s' := by
  obtain ⟨hM, hR⟩ := hi
  cases h with
  | transHead hh _ hst | transQueued hh _ hst =>
    -- no message has been refused: the peer would hold agency in `s.st` (`rej`), but we do (`ho`)
    have ho := hI.tok.tokS (.inr hh)
    exact ⟨by simpa using hM.append (.own hst ho .nil),
      fun x hx => absurd (hR x hx).1 (by simp [ours_not_peers ho])⟩
  | transRecv hh hq hst =>
    exact ⟨by simpa using hM.append (.peer hst (hI.tok.tokR (.inr hh)) .nil),
      fun x hx => by simp [hI.rcv.rejR (hI.rcv.alive hq)] at hx⟩
  | errRecv hh _ hst => exact ⟨hM, fun x hx => by cases hx; exact ⟨hI.tok.tokR (.inr hh), hst⟩⟩
  | _ => exact ⟨hM, hR⟩

/-! ### the merge is determined by agency -/

/-- Of two merges from `q` with comparable peer streams, one that takes an initial part `X1` of
    our messages and ends where we hold agency is the beginning of the other.  `a2` rules out that
    the other has stopped short of `e1` where the peer holds agency, which it can do only with
    nothing of ours left. -/
theorem Merge.unique {q e1 e2 : Nat} {L1 L2 X X1 X2 Y1 Y2 : List Sym}
    (h1 : Merge m role q L1 X1 Y1 e1) (h2 : Merge m role q L2 X Y2 e2) (hX : X = X1 ++ X2)
    (hc : Y1 <+: Y2 ∨ Y2 <+: Y1) (a1 : ours m role e1 = true)
    (a2 : X2 = [] → ours m role e2 = true) :
    ∃ L Y, L2 = L1 ++ L ∧ Merge m role e1 L X2 Y e2 := by
  induction h1 generalizing L2 X Y2 with
  | nil =>
    subst hX
    exact ⟨L2, Y2, rfl, h2⟩
  | own hs ho _ ih =>
    cases h2 with
    | nil => simp at hX
    | own hs2 _ h2 =>
      cases hX
      cases hs.symm.trans hs2
      obtain ⟨L, Y, rfl, hL⟩ := ih h2 rfl hc a1
      exact ⟨L, Y, rfl, hL⟩
    | peer _ hp => simp [ours_not_peers ho] at hp
  | peer hs hp _ ih =>
    -- both take the peer's next message, which the comparable streams agree on
    cases h2 with
    | nil =>
      obtain ⟨-, hX2⟩ := List.nil_eq_append_iff.mp hX
      simp [ours_not_peers (a2 hX2)] at hp
    | own _ ho => simp [ours_not_peers ho] at hp
    | peer hs2 _ h2 =>
      simp only [List.cons_prefix_cons] at hc
      obtain rfl := hc.elim (·.1) (·.1.symm)
      cases hs.symm.trans hs2
      obtain ⟨L, Y, rfl, hL⟩ := ih h2 hX (hc.imp (·.2) (·.2)) a1
      exact ⟨L, Y, rfl, hL⟩

theorem merge_unique {q e1 e2 : Nat} {L1 L2 X Y1 Y2 : List Sym}
    (h1 : IsMerge m role q L1 X Y1) (h2 : IsMerge m role q L2 X Y2)
    (hc : Y1 <+: Y2 ∨ Y2 <+: Y1)
    (r1 : m.run q L1 = some e1) (r2 : m.run q L2 = some e2)
    (a1 : ours m role e1 = true) (a2 : ours m role e2 = true) : L1 = L2 := by
  obtain ⟨L, Y, rfl, hL⟩ := (isMerge_iff.mp ⟨h1, r1⟩).unique (isMerge_iff.mp ⟨h2, r2⟩)
    (List.append_nil X).symm hc a1 fun _ => a2
  -- what is left of the second takes none of our messages and starts where we hold agency
  cases hL with
  | nil => exact (List.append_nil L1).symm
  | peer _ hp => simp [ours_not_peers a1] at hp

theorem Merge.swap {ra rb : Nat}
    (hsw : ∀ q, (ours m rb q = true → peers m ra q = true) ∧ (peers m rb q = true → ours m ra q = true))
    {q e : Nat} {tl own peer : List Sym} (h : Merge m rb q tl own peer e) :
    Merge m ra q tl peer own e := by
  induction h with
  | nil => exact .nil
  | own hs ho _ ih => exact .peer hs ((hsw _).1 ho) ih
  | peer hs hp _ ih => exact .own hs ((hsw _).2 hp) ih

theorem prefix_split_of_length_lt {U V S T : List Sym} {x : Sym}
    (h : (U ++ x :: V) <+: (S ++ T)) (hl : U.length < S.length) : ∃ X2, S = U ++ x :: X2 := by
  have h1 : U ++ [x] <+: S ++ T := .trans ⟨V, by simp⟩ h
  obtain ⟨X2, hX⟩ := List.prefix_of_prefix_length_le h1 (List.prefix_append S T) (by simp; omega)
  exact ⟨X2, by simp [← hX]⟩

/-- If the receiving engine `b` refuses a message, the sending engine `a` has not applied it. -/
theorem refusal_not_applied {ra rb : Nat}
    (hsw : ∀ q, (ours m rb q = true → peers m ra q = true) ∧ (peers m rb q = true → ours m ra q = true))
    {a b : S} (ha : Inv m ra a) (hma : MergeInv m ra a) (hb : Inv m rb b) (hmb : MergeInv m rb b)
    (hc1 : b.inb <+: a.wire) (hc2 : a.inb <+: b.wire) {x : Sym} (hx : b.recvRej = some x) :
    a.sendTrans.length ≤ (b.hlog.map (·.2)).length := by
  apply Nat.le_of_not_lt
  intro hlt
  -- what b read: the accepted messages, then the refused one
  have hinb : b.inb = b.hlog.map (·.2) ++ x :: (b.reqR.toList ++ b.recvQ) := by
    rw [hb.rcv.inbOrder, hx]; simp
  rw [hinb, ← ha.snd.transWire] at hc1
  obtain ⟨X2, hX⟩ := prefix_split_of_length_lt hc1 hlt
  have hMb := hmb.merge.swap hsw
  have ⟨hpb, hnone⟩ := hmb.rej x hx
  have hob : ours m ra b.st = true := (hsw b.st).2 hpb
  -- b's messages, as a accepted them and as b applied them, are both prefixes of what b wrote
  have hp1 : a.hlog.map (·.2) <+: b.wire := by
    have h2 : a.hlog.map (·.2) <+: a.inb := by
      rw [ha.rcv.inbOrder]; simp [List.append_assoc]
    exact h2.trans hc2
  have hp2 : b.sendTrans <+: b.wire := ⟨b.pendT, hb.snd.transWire⟩
  -- so a came through the state b is in now and applied x there, where b refuses it: `Merge.unique`
  -- in a's role, with b's merge as the first and a's own as the second (`nofun`: `x :: X2 ≠ []`)
  obtain ⟨L, Y, -, hL⟩ := hMb.unique hma.merge hX (List.prefix_or_prefix_of_prefix hp2 hp1) hob nofun
  cases hL with
  | own hs => simp [hnone] at hs
  | peer _ hp => simp [ours_not_peers hob] at hp

/-- `hr` is what `refusal_not_applied` gives.  A refused message lies on `a`'s wire beyond the
    ones `b` accepted, and `a` has applied the whole wire. -/
theorem accepted_of_applied {a b : S} (ha : SendInv a) (hb : RecvInv b) (hc : b.inb <+: a.wire)
    (hr : ∀ x, b.recvRej = some x → a.sendTrans.length ≤ b.hlog.length) (hp : a.pendT = []) :
    b.recvRej = none := by
  cases hx : b.recvRej with
  | none => rfl
  | some x =>
    have h1 := hr x hx
    have hl := hc.length_le
    rw [hb.inbOrder, hx, ← ha.transWire, hp] at hl
    simp at hl
    omega

/-! ### two engines composed through two byte streams (the model of C12's statements) -/

/-- client engine `a` and server engine `b` -/
structure Pair where
  a : S
  b : S

inductive PEv where
  | A (e : Ev)   -- an event of the client engine
  | B (e : Ev)   -- an event of the server engine

/-- a `rq x` event (readLoop decoded `x`) is possible only if `x` is the next message the other
    engine has written that has not been read yet (the byte streams are FIFO and lossless; the
    muxer is C09/C10's business) -/
def deliverable (inb wire : List Sym) : Ev → Bool
  | .rq x => (inb ++ [x]).isPrefixOf wire
  | _ => true

def pstep (m : Machine) (p : Pair) : PEv → Option Pair
  | .A e => if deliverable p.a.inb p.b.wire e then (step? m 1 p.a e).map (fun a' => { p with a := a' }) else none
  | .B e => if deliverable p.b.inb p.a.wire e then (step? m 2 p.b e).map (fun b' => { p with b := b' }) else none

def prun (m : Machine) (p : Pair) : List PEv → Option Pair
  | [] => some p
  | e :: rest => match pstep m p e with | none => none | some p' => prun m p' rest

def pinit (m : Machine) : Pair := ⟨init m, init m⟩

structure PInv (m : Machine) (p : Pair) : Prop where
  ia : Inv m 1 p.a
  ib : Inv m 2 p.b
  ma : MergeInv m 1 p.a
  mb : MergeInv m 2 p.b
  ca : p.a.inb <+: p.b.wire
  cb : p.b.inb <+: p.a.wire

theorem pinv_init : PInv m (pinit m) := by
  refine ⟨inv_init, inv_init, mergeInv_init, mergeInv_init, ?_, ?_⟩ <;> simp [pinit, init]

theorem side_step {r : Nat} {sa sa' sb : S} {e : Ev}
    (hd : deliverable sa.inb sb.wire e = true) (h : step? m r sa e = some sa')
    (ia : Inv m r sa) (ma : MergeInv m r sa) (ca : sa.inb <+: sb.wire) (cb : sb.inb <+: sa.wire) :
    Inv m r sa' ∧ MergeInv m r sa' ∧ sa'.inb <+: sb.wire ∧ sb.inb <+: sa'.wire := by
  have hs := step_cases h
  refine ⟨inv_step ia hs, mergeInv_step ia ma hs, ?_, cb.trans ?_⟩
  · cases hs with
    | rq => simpa [deliverable, List.isPrefixOf_iff_prefix] using hd
    | _ => exact ca
  · -- the wire only grows
    cases hs with
    | deqNext | transHead => exact List.prefix_append _ _
    | _ => exact List.prefix_rfl

theorem pinv_step {p p' : Pair} {e : PEv} (hi : PInv m p) (h : pstep m p e = some p') : PInv m p' := by
  obtain ⟨ia, ib, ma, mb, ca, cb⟩ := hi
  cases e with
  | A e =>
    simp only [pstep, Option.ite_none_right_eq_some, Option.map_eq_some_iff] at h
    obtain ⟨hd, a', hs, rfl⟩ := h
    have ⟨i, mi, c1, c2⟩ := side_step hd hs ia ma ca cb
    exact ⟨i, ib, mi, mb, c1, c2⟩
  | B e =>
    simp only [pstep, Option.ite_none_right_eq_some, Option.map_eq_some_iff] at h
    obtain ⟨hd, b', hs, rfl⟩ := h
    have ⟨i, mi, c1, c2⟩ := side_step hd hs ib mb cb ca
    exact ⟨ia, i, ma, mi, c2, c1⟩

theorem prun_eq_foldlM (p : Pair) (evs : List PEv) : prun m p evs = evs.foldlM (pstep m) p := by
  fun_induction prun m p evs <;> simp [*]

theorem pinv_reachable (evs : List PEv) {p : Pair} (h : prun m (pinit m) evs = some p) : PInv m p :=
  StepSystem.foldlM_invariant evs (fun _ _ _ _ hi hs => pinv_step hi hs) pinv_init
    (prun_eq_foldlM _ evs ▸ h)

theorem swap_roles (hag : ∀ q, m.agencyOf q ≤ 2) {ra rb : Nat} (h : ra + rb = 3) (ha : 1 ≤ ra)
    (hb : 1 ≤ rb) :
    ∀ q, (ours m rb q = true → peers m ra q = true) ∧ (peers m rb q = true → ours m ra q = true) := by
  intro q
  have hq := hag q
  unfold ours peers
  simp only [beq_iff_eq, Bool.and_eq_true, bne_iff_ne, ne_eq]
  constructor <;> intro _ <;> omega

theorem swap12 (hag : ∀ q, m.agencyOf q ≤ 2) :
    ∀ q, (ours m 2 q = true → peers m 1 q = true) ∧ (peers m 2 q = true → ours m 1 q = true) :=
  swap_roles hag rfl (by decide) (by decide)

theorem swap21 (hag : ∀ q, m.agencyOf q ≤ 2) :
    ∀ q, (ours m 1 q = true → peers m 2 q = true) ∧ (peers m 1 q = true → ours m 2 q = true) :=
  swap_roles hag rfl (by decide) (by decide)

end GV.Engine
