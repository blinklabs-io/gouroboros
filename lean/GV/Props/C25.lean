import GV.Model.LocalRR
import GV.Proofs.StepSystem
/-!
C25 — Local request/response calls get their own answers.

* `reply_belongs_to_request`: with the busy mutex, for any number of callers,
  any work lists and **any schedule**, every call returns the reply tagged with
  the request it sent itself.
* `no_mutex_crosstalk_witness`: without the mutex (peer-sharing before the
  fix) a five-step schedule hands caller 1 the reply to caller 0's request.
* `bookkeeping_never_violates`: across any disciplined sequence of acquire
  (granted or refused), query and release calls the client only sends messages
  the protocol state allows, so every call gets answered;
  `stale_flag_witness`: before the fix a refused re-acquire followed by a query
  tears the connection down.
-/
namespace GV.Props.C25
open GV.Model.LocalRR

/-- at most one request is in flight (to the server, back, or on offer), none while the lock is free
    (`lock.toList.length` is 0 or 1); whoever waits holds the lock, and what is in flight is its
    request; every call completed so far got its own reply -/
def Inv (s : St) : Prop :=
  s.useMutex = true ∧
  (∀ x ∈ s.results, x.2.2 = x.2.1) ∧
  (s.wire ++ s.back ++ s.offer.toList).length ≤ s.lock.toList.length ∧
  ∀ j t, (s.callers j).waiting = some t → s.lock = some j ∧ s.wire ++ s.back ++ s.offer.toList = [t]

theorem inv_init (work : Nat → List Nat) : Inv (St.init true work) := by
  simp [Inv, St.init]

theorem inv_step (s s' : St) (a : Act) (h : Inv s) (hs : step s a = some s') : Inv s' := by
  obtain ⟨hm, hres, hlen, hw⟩ := h
  revert hs
  fun_cases step s a <;> intro hs <;> cases hs
  -- a caller begins: the mutex is free, so nothing is in flight and nobody waits
  case case2 i t rest hwi hp hc =>
    have hlk : s.lock = none := by simpa [hm] using hc
    have hf : s.wire = [] ∧ s.back = [] ∧ s.offer = none := by simpa [hlk] using hlen
    refine ⟨hm, hres, by simp [hm, hf], fun j u hj => ?_⟩
    by_cases hji : j = i
    · simpa [setCaller, hji, hm, hf] using hj
    · simp only [setCaller, hji, if_false] at hj
      cases hlk.symm.trans (hw j u hj).1
  -- the server answers a request on the wire
  case case4 t w hwire =>
    refine ⟨hm, hres, ?_, fun j u hj => ?_⟩
    · simp [hwire] at hlen ⊢
      omega
    · obtain ⟨hlk, hf⟩ := hw j u hj
      -- a concatenation with one element fixes every part: `t = u`, the rest is empty
      simp [hwire] at hf
      exact ⟨hlk, by simp [hf]⟩
  -- the handler offers a reply on its way back
  case case6 r b hoff hback =>
    refine ⟨hm, hres, ?_, fun j u hj => ?_⟩
    · simp [hback, hoff] at hlen ⊢
      omega
    · obtain ⟨hlk, hf⟩ := hw j u hj
      simp [hback, hoff, List.append_eq_singleton_iff] at hf
      exact ⟨hlk, by simp [hf]⟩
  -- a caller takes the offer: it waits, so it holds the lock and the offer is its request
  case case8 i t r hoff hwi =>
    obtain ⟨hlk, hf⟩ := hw i t hwi
    simp [hoff, List.append_eq_singleton_iff] at hf
    obtain ⟨hwire, hb, rfl⟩ := hf
    refine ⟨hm, fun x hx => ?_, by simp [hm, hwire, hb], fun j u hj => ?_⟩
    · rcases List.mem_append.mp hx with hx | hx
      · exact hres x hx
      · cases List.mem_singleton.mp hx; rfl
    -- nobody else held the lock, so nobody else waits
    · by_cases hji : j = i
      · simp [setCaller, hji] at hj
      · simp only [setCaller, hji, if_false] at hj
        exact absurd (Option.some.inj ((hw j u hj).1.symm.trans hlk)) hji

theorem run_eq_foldlM (s : St) (sched : List Act) : run s sched = sched.foldlM step s := by
  fun_induction run s sched <;> simp [*]

theorem inv_run {work : Nat → List Nat} {sched : List Act} {s : St}
    (hr : run (St.init true work) sched = some s) : Inv s :=
  GV.StepSystem.foldlM_invariant sched (fun s a s' _ => inv_step s s' a) (inv_init work)
    (run_eq_foldlM _ sched ▸ hr)

/-- **Every call gets its own answer**: any callers, any work, any schedule. -/
theorem reply_belongs_to_request (work : Nat → List Nat) (sched : List Act) (s : St)
    (h : run (St.init true work) sched = some s) :
    ∀ caller req rep, (caller, req, rep) ∈ s.results → rep = req := by
  intro c q r hm
  exact (inv_run h).2.1 (c, q, r) hm

/-- … and never more than one request is in flight. -/
theorem one_in_flight (work : Nat → List Nat) (sched : List Act) (s : St)
    (h : run (St.init true work) sched = some s) :
    (s.wire ++ s.back ++ s.offer.toList).length ≤ 1 := by
  refine Nat.le_trans (inv_run h).2.2.1 ?_
  cases s.lock <;> simp

def work2 : Nat → List Nat := fun i => if i = 0 then [3] else if i = 1 then [5] else []

/-- Without mutual exclusion (peer-sharing's GetPeers before the fix): caller 0
    asks for 3, caller 1 asks for 5, the first reply (3) is taken by caller 1. -/
theorem no_mutex_crosstalk_witness :
    (run (St.init false work2) [.begin 0, .begin 1, .serve, .handle, .take 1]).map (·.results) =
      some [(1, 5, 3)] := by decide

/-- the same schedule is impossible with the mutex (caller 1 cannot begin) … -/
example : (run (St.init true work2) [.begin 0, .begin 1]).isNone = true := by decide

/-- … and a complete run with the mutex -/
example : (run (St.init true work2) [.begin 0, .serve, .handle, .take 0, .begin 1, .serve, .handle, .take 1]).map
    (·.results) = some [(0, 3, 3), (1, 5, 5)] := by decide

/-! ### acquire / re-acquire / release -/

def BkInv (held : Bool) (c : Bk) : Prop :=
  c.violated = false ∧ (c.acq = true ↔ c.ps = .acquired) ∧ (held = true ↔ c.ps = .acquired)

/-- Across any disciplined sequence of calls (acquire granted or refused,
    re-acquire, query with implicit acquire, release) the client never sends a
    message the protocol state forbids — no call is lost to a torn-down connection. -/
theorem bookkeeping_never_violates (calls : List Call) : ∀ (held : Bool) (c : Bk),
    BkInv held c → disciplined held calls = true → (calls.foldl (callStep true) c).violated = false := by
  intro held c hi hd
  obtain ⟨acq, ps, v⟩ := c
  -- recursion along `disciplined`: after each call `BkInv` holds for the `held` that `disciplined`
  -- passes on; the bookkeeping state is finite and is checked case by case
  match calls with
  | [] => exact hi.1
  | .acquire g :: t =>
    refine bookkeeping_never_violates t g _ ?_ hd
    cases ps <;> cases g <;> simp_all [callStep, BkInv]
  | .query :: t =>
    refine bookkeeping_never_violates t true _ ?_ hd
    cases ps <;> simp_all [callStep, BkInv]
  | .release :: t =>
    -- the discipline allows this only while `held`, that is, in protocol state Acquired
    simp only [disciplined, Bool.and_eq_true] at hd
    refine bookkeeping_never_violates t false _ ?_ hd.2
    obtain rfl : ps = .acquired := hi.2.2.mp hd.1
    simp_all [callStep, BkInv]

theorem bookkeeping_from_start (calls : List Call) (hd : disciplined false calls = true) :
    (calls.foldl (callStep true) Bk.init).violated = false :=
  bookkeeping_never_violates calls false Bk.init (by simp [BkInv, Bk.init]) hd

/-- Before the fix the `acquired` flag survived a refused re-acquire: the next
    query is sent from Idle and the connection is torn down. -/
theorem stale_flag_witness :
    disciplined false [.acquire true, .acquire false, .query] = true ∧
    ([Call.acquire true, .acquire false, .query].foldl (callStep false) Bk.init).violated = true ∧
    ([Call.acquire true, .acquire false, .query].foldl (callStep true) Bk.init).violated = false := by
  decide

end GV.Props.C25
