import GV.Model.Collateral
import GV.Gen.RuleLists
/-!
C32 — Collateral covers the fee share the protocol demands.

For a transaction that runs scripts, validation requires at least one
collateral input, collateral balance × 100 ≥ fee × collateral percentage
(exact), ada-only collateral unless the non-ada part is returned, and no more
collateral inputs than the protocol maximum.
-/
namespace GV.Props.C32
open GV.Model.Collateral

private theorem idsOf_eq_nil {bp : Bool} {l : List COut} (h : l.any (isBad bp) = false) :
    idsOf l = [] := by
  refine List.flatMap_eq_nil_iff.mpr fun o ho => ?_
  have hb := List.any_eq_false.mp h o ho
  unfold isBad at hb
  unfold bundleOf
  cases ha : o.assets with
  | none => rfl
  | some b =>
    cases bp with
    | true => simpa [ha] using hb
    | false => simp [ha] at hb

/-- The token clause: when the non-ada rule passes for a script transaction, every asset
    carried by the collateral inputs is returned in full. -/
theorem nonAda_sound (t : Tx) (hs : t.redeemers = true) (h : nonAdaOk t = true) :
    nonAdaReturned t = true := by
  unfold nonAdaOk at h
  unfold nonAdaReturned
  cases hbad : t.ins.any (isBad t.hasReturnField) with
  | false =>
    rw [idsOf_eq_nil hbad]
    rfl
  | true =>
    simp only [hs, hbad, Bool.not_true, Bool.false_eq_true, ↓reduceIte] at h
    split at h
    · cases h  -- no return field: rejected
    · split at h
      · -- `ret = some r`: `h : returnsAll t r`, asset by asset
        rw [List.all_eq_true]
        intro a ha
        have := List.all_eq_true.mp h a (by simp [ha])
        simp only [beq_iff_eq] at this
        simp [this]
      · cases h  -- `ret = none`: rejected

/-- The sufficiency rule is *exactly* the integer inequality: nothing is rounded
    in the transaction's favour, in either direction. -/
theorem insufficient_iff (t : Tx) (hs : t.redeemers = true) :
    insufficientOk t = true ↔ balanceCoin t * 100 ≥ (t.fee : Int) * (t.pct : Int) := by
  unfold insufficientOk; simp [hs]

/-- Full statement: an accepted script-running transaction meets all four demands. -/
theorem accepted_sound (t : Tx) (hs : t.redeemers = true) (h : accepted t = true) :
    1 ≤ t.ins.length ∧
    balanceCoin t * 100 ≥ (t.fee : Int) * (t.pct : Int) ∧
    nonAdaReturned t = true ∧
    t.ins.length ≤ t.maxInputs := by
  unfold accepted at h
  simp only [Bool.and_eq_true] at h
  obtain ⟨⟨⟨h1, h2⟩, h3⟩, h4⟩ := h
  refine ⟨?_, (insufficient_iff t hs).mp h1, nonAda_sound t hs h2, ?_⟩
  · unfold noCollateralOk at h3
    simpa [hs, Nat.one_le_iff_ne_zero] using h3
  · unfold tooManyOk at h4
    simpa using h4

/-- Acceptance by the four rules implies the demand predicate the monitor evaluates
    on the implementation's verdicts (`demanded` is the `spec` column of the driver). -/
theorem accepted_imp_demanded (t : Tx) (hs : t.redeemers = true) :
    accepted t = true → demanded t = true := by
  intro h
  simp only [demanded, Bool.and_eq_true, decide_eq_true_eq, and_assoc]
  exact accepted_sound t hs h

/-- A transaction without scripts is not subject to any of the three script-only rules. -/
theorem no_scripts_no_demand (t : Tx) (hs : t.redeemers = false) :
    insufficientOk t = true ∧ nonAdaOk t = true ∧ noCollateralOk t = true := by
  simp [insufficientOk, nonAdaOk, noCollateralOk, hs]

/-- Floor division would be unsound: a witness that passes `coin ≥ fee * pct / 100`, the test the
    Go rule made before /repo commit a01e4d5, and fails the exact inequality. -/
theorem floor_division_counterexample :
    let t : Tx := { hasReturnField := false, redeemers := true, fee := 1, pct := 150,
                    maxInputs := 3, ins := [⟨1, none⟩], ret := none }
    (decide (sumCoin t.ins ≥ t.fee * t.pct / 100) = true) ∧ insufficientOk t = false := by
  decide

/-- A partial token return is not a return: two asset names, only one comes back. -/
theorem partial_return_rejected :
    let t : Tx := { hasReturnField := true, redeemers := true, fee := 1, pct := 100,
                    maxInputs := 3, ins := [⟨10, some [(0, 5), (1, 7)]⟩], ret := some ⟨1, some [(0, 5)]⟩ }
    nonAdaOk t = false := by
  decide

/-- Regenerated tie: the four modelled rules are entries of every era's rule list
    as it stands in /repo now (lists re-extracted from the source on every run). -/
theorem rules_listed :
    ∀ l ∈ [GV.Gen.RuleLists.alonzo, GV.Gen.RuleLists.babbage, GV.Gen.RuleLists.conway,
           GV.Gen.RuleLists.dijkstra],
      "UtxoValidateInsufficientCollateral" ∈ l ∧ "UtxoValidateCollateralContainsNonAda" ∈ l ∧
      "UtxoValidateNoCollateralInputs" ∈ l ∧ "UtxoValidateTooManyCollateralInputs" ∈ l := by
  -- membership by finding the name; no two names are ever compared for inequality
  simp only [List.forall_mem_cons, List.not_mem_nil, false_imp_iff, implies_true, and_true]
  simp only [GV.Gen.RuleLists.alonzo, GV.Gen.RuleLists.babbage, GV.Gen.RuleLists.conway,
    GV.Gen.RuleLists.dijkstra, List.mem_cons, true_or, or_true, and_self]

/-- Non-vacuity: a concrete accepted script transaction exists (tokens spread over two
    inputs and fully returned). -/
example : accepted { hasReturnField := true, redeemers := true, fee := 200, pct := 150,
                     maxInputs := 3, ins := [⟨500, some [(0, 7)]⟩, ⟨10, some [(0, 1), (3, 2)]⟩],
                     ret := some ⟨210, some [(3, 2), (0, 8)]⟩ } = true := by decide

end GV.Props.C32
