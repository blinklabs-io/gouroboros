import GV.Model.DmqAuth
import GV.Model.DmqSym
import GV.Gen.DmqAuthFacts
import GV.Proofs.Ladder
/-!
C46 — DMQ messages are accepted only when fully authenticated.

The message authenticator accepts a DMQ message only if its id is the hash of its
payload, the operational certificate is signed by the message's cold key, and the KES
signature over the payload verifies. The issuing pool must also be registered, and the
certificate counter must not fall below one previously accepted for that pool. Without a
KES verifier it rejects unless insecure mode was explicitly enabled.

The theorems are about `GV.Model.DmqAuth.verify` (mirror of `verifyMessageInternal`) for an
arbitrary instance `P` of the primitives and an arbitrary injected verifier; the last section is
about `validateTTLAt` (mirror of `ValidateMessageTTLAt`).
-/
namespace GV.Props.C46
open GV.Model.DmqAuth

variable {Payload Digest Key Sig KSig Pool : Type}
variable (P : Prims Payload Digest Key Sig KSig Pool) [DecidableEq Digest] [DecidableEq Pool]

/-- the KES clause of the property: the injected verifier declared the signature valid for the
    arguments the authenticator computes — or there is no verifier and insecure mode is on -/
def KesFact (a : Auth Payload Key KSig Pool) (m : Msg Payload Digest Key Sig KSig)
    (slot : Option Nat) : Prop :=
  (∃ f, a.verifier = some f ∧
      f m.payload m.kesSig m.kesVk (P.kesPeriodOf m.payload) (slotFor P a m slot)
        a.slotsPerKesPeriod = KesRes.valid) ∨
  (a.verifier = none ∧ a.allowInsecure = true)

omit [DecidableEq Digest] [DecidableEq Pool] in
theorem kesOk_iff (a : Auth Payload Key KSig Pool) (m : Msg Payload Digest Key Sig KSig)
    (slot : Option Nat) :
    kesOk P a m slot = true ↔ m.kesSigLen = 448 ∧ m.kesVkLen = 32 ∧ KesFact P a m slot := by
  simp only [kesOk, KesFact, ite_eq_of_ne, ne_eq, Bool.false_eq_true, not_false_eq_true, bne_iff_ne,
    Decidable.not_not]
  cases a.verifier <;> simp

/-- the three ways `verify` ends — validation disabled, a rejection, an acceptance after all
    five checks — each with the authenticator it leaves -/
theorem verify_cases (a : Auth Payload Key KSig Pool) (m : Msg Payload Digest Key Sig KSig)
    (slot : Option Nat) :
    (a.disableValidation = true ∧ verify P a m slot = (.ok (), a)) ∨
    (∃ e, verify P a m slot = (.error e, a)) ∨
    (idOk P m = true ∧ certOk P m = true ∧ kesOk P a m slot = true ∧
      a.pools.contains (P.poolOf m.coldKey) = true ∧
      (∀ last, lookup a.cache (P.poolOf m.coldKey) = some last → last ≤ m.issue) ∧
      verify P a m slot =
        (.ok (), { a with cache := insert a.cache (P.poolOf m.coldKey) m.issue })) := by
  unfold verify
  by_cases hv : a.disableValidation = true
  · exact .inl ⟨hv, if_pos hv⟩
  rw [if_neg hv]
  refine .inr ?_
  dsimp only
  -- each test in turn: where it fails, that is the rejection
  cases idOk P m
  · exact .inl ⟨.id, rfl⟩
  cases certOk P m
  · exact .inl ⟨.opcert, rfl⟩
  cases kesOk P a m slot
  · exact .inl ⟨.kes, rfl⟩
  cases a.pools.contains (P.poolOf m.coldKey)
  · exact .inl ⟨.pool, rfl⟩
  cases lookup a.cache (P.poolOf m.coldKey) with
  | none => exact .inr ⟨rfl, rfl, rfl, rfl, fun _ h => (nomatch h), rfl⟩
  | some last =>
    by_cases h5 : m.issue < last
    · exact .inl ⟨.rotation, if_pos h5⟩
    · exact .inr ⟨rfl, rfl, rfl, rfl, fun _ h => by cases h; omega, if_neg h5⟩

/-- **accepted → all five facts.** -/
theorem accepted_sound (a : Auth Payload Key KSig Pool) (m : Msg Payload Digest Key Sig KSig)
    (slot : Option Nat) (hv : a.disableValidation = false)
    (h : (verify P a m slot).1 = .ok ()) :
    (m.idLen = 32 ∧ m.id = P.msgId m.payload) ∧
    (m.coldKeyLen = 32 ∧ m.coldSigLen = 64 ∧
      P.certVerify m.coldKey m.kesVk m.issue m.ocPeriod m.coldSig = true) ∧
    (m.kesSigLen = 448 ∧ m.kesVkLen = 32 ∧ KesFact P a m slot) ∧
    a.pools.contains (P.poolOf m.coldKey) = true ∧
    (∀ last, lookup a.cache (P.poolOf m.coldKey) = some last → last ≤ m.issue) := by
  rcases verify_cases P a m slot with ⟨hd, _⟩ | ⟨e, he⟩ | ⟨h1, h2, h3, h4, h5, _⟩
  · rw [hv] at hd; cases hd
  · rw [he] at h; cases h
  · simp only [idOk, Bool.and_eq_true, bne_iff_ne, ne_eq, beq_iff_eq] at h1
    simp only [certOk, Bool.and_eq_true, beq_iff_eq] at h2
    exact ⟨⟨h1.1.2, h1.2⟩, ⟨h2.1.1, h2.1.2, h2.2⟩, (kesOk_iff P a m slot).mp h3, h4, h5⟩

/-- Without a KES verifier and without insecure mode nothing is accepted. -/
theorem no_verifier_rejects (a : Auth Payload Key KSig Pool) (m : Msg Payload Digest Key Sig KSig)
    (slot : Option Nat) (hv : a.disableValidation = false) (hn : a.verifier = none)
    (hi : a.allowInsecure = false) :
    ∃ e, (verify P a m slot).1 = .error e := by
  cases hr : (verify P a m slot).1 with
  | error e => exact ⟨e, rfl⟩
  | ok u =>
    have : KesFact P a m slot := (accepted_sound P a m slot hv hr).2.2.1.2.2
    rcases this with ⟨f, hf, _⟩ | ⟨_, h⟩
    · simp [hn] at hf
    · simp [hi] at h

/-- A rejection changes nothing; an acceptance changes exactly the pool's cache entry. -/
theorem cache_changes_only_on_accept (a : Auth Payload Key KSig Pool)
    (m : Msg Payload Digest Key Sig KSig) (slot : Option Nat) :
    (∀ e, (verify P a m slot).1 = .error e → (verify P a m slot).2 = a) ∧
    ((verify P a m slot).1 = .ok () → a.disableValidation = false →
      (verify P a m slot).2 = { a with cache := insert a.cache (P.poolOf m.coldKey) m.issue }) := by
  rcases verify_cases P a m slot with ⟨hd, e⟩ | ⟨_, e⟩ | ⟨_, _, _, _, _, e⟩ <;> rw [e]
  · exact ⟨fun _ h => (nomatch h), fun _ h => by rw [hd] at h; cases h⟩
  · exact ⟨fun _ _ => rfl, fun h => (nomatch h)⟩
  · exact ⟨fun _ h => (nomatch h), fun _ _ => rfl⟩

/-! ### the counter cache over histories -/

theorem lookup_insert (c : List (Pool × Nat)) (p q : Pool) (n : Nat) :
    lookup (insert c p n) q = if p = q then some n else lookup c q := by
  fun_induction GV.Model.DmqAuth.insert c p n with
  | case1 => rfl
  | case2 k rest => -- the head is `p`'s entry
    simp only [lookup]
    split <;> rfl
  | case3 r k rest h1 ih => -- the head is another pool's
    simp only [lookup, ih]
    by_cases h2 : r = q
    · subst h2; rw [if_pos rfl, if_neg (Ne.symm h1), if_pos rfl]
    · rw [if_neg h2, if_neg h2]

/-- One verification never lowers (or forgets) any pool's cached counter. -/
theorem counter_monotone (a : Auth Payload Key KSig Pool) (m : Msg Payload Digest Key Sig KSig)
    (slot : Option Nat) (q : Pool) (last : Nat) (hq : lookup a.cache q = some last) :
    ∃ last', lookup (verify P a m slot).2.cache q = some last' ∧ last ≤ last' := by
  rcases verify_cases P a m slot with ⟨_, e⟩ | ⟨_, e⟩ | ⟨_, _, _, _, h5, e⟩ <;> rw [e]
  · exact ⟨last, hq, Nat.le_refl _⟩
  · exact ⟨last, hq, Nat.le_refl _⟩
  · simp only [lookup_insert]
    by_cases hp : P.poolOf m.coldKey = q
    · exact ⟨m.issue, if_pos hp, h5 last (hp ▸ hq)⟩
    · exact ⟨last, (if_neg hp).trans hq, Nat.le_refl _⟩

/-- the authenticator after a history -/
def after (a : Auth Payload Key KSig Pool)
    (h : List (Action Payload Digest Key Sig KSig Pool)) : Auth Payload Key KSig Pool :=
  (run P a h).2

/-- only a verification touches the counter cache or the validation switch -/
theorem after_invariant (I : List (Pool × Nat) → Bool → Prop)
    (hverify : ∀ a m slot, I a.cache a.disableValidation →
      I (verify P a m slot).2.cache (verify P a m slot).2.disableValidation)
    (h : List (Action Payload Digest Key Sig KSig Pool)) (a : Auth Payload Key KSig Pool)
    (ha : I a.cache a.disableValidation) :
    I (after P a h).cache (after P a h).disableValidation := by
  induction h generalizing a with
  | nil => exact ha
  | cons act rest ih =>
    cases act with
    | verifyMsg m slot => exact ih _ (hverify a m slot ha)
    | register p => exact ih _ ha
    | unregister p => exact ih _ ha
    | setInsecure b => exact ih _ ha
    | setVerifier f => exact ih _ ha

/-- **Counter monotone over any history** of verifications, (un)registrations and
    configuration changes: a pool's cached counter never decreases and never disappears.
    `Action` has no constructor for `RemoveKESOpCertCacheEntry`, the explicit eviction that deletes
    a pool's entry: a history in the sense of this file does not contain it (props/C46.json). -/
theorem counter_monotone_history (h : List (Action Payload Digest Key Sig KSig Pool))
    (a : Auth Payload Key KSig Pool) (q : Pool) (last : Nat)
    (hq : lookup a.cache q = some last) :
    ∃ last', lookup (after P a h).cache q = some last' ∧ last ≤ last' := by
  refine after_invariant P (fun c _ => ∃ last', lookup c q = some last' ∧ last ≤ last') ?_
    h a ⟨last, hq, Nat.le_refl _⟩
  rintro a' m slot ⟨l, hl, le⟩
  obtain ⟨l', hl', le'⟩ := counter_monotone P a' m slot q l hl
  exact ⟨l', hl', Nat.le_trans le le'⟩

theorem after_disable (h : List (Action Payload Digest Key Sig KSig Pool))
    (a : Auth Payload Key KSig Pool) : (after P a h).disableValidation = a.disableValidation := by
  refine after_invariant P (fun _ d => d = a.disableValidation) (fun a' m slot h' => ?_) h a rfl
  rw [← h']
  rcases verify_cases P a' m slot with ⟨_, e⟩ | ⟨_, e⟩ | ⟨_, _, _, _, _, e⟩ <;> rw [e]

/-- **The counter never falls below one previously accepted for that pool**: if a message of a
    pool is accepted, then — after any further history (of `Action`s: no explicit eviction) — another
    message of the same pool is accepted only with a counter at least as large. -/
theorem accepted_counters_monotone (a : Auth Payload Key KSig Pool)
    (hv : a.disableValidation = false)
    (m1 m2 : Msg Payload Digest Key Sig KSig) (s1 s2 : Option Nat)
    (between : List (Action Payload Digest Key Sig KSig Pool))
    (hp : P.poolOf m1.coldKey = P.poolOf m2.coldKey)
    (h1 : (verify P a m1 s1).1 = .ok ())
    (h2 : (verify P (after P (verify P a m1 s1).2 between) m2 s2).1 = .ok ()) :
    m1.issue ≤ m2.issue := by
  have hc := (cache_changes_only_on_accept P a m1 s1).2 h1 hv
  have hl : lookup (verify P a m1 s1).2.cache (P.poolOf m1.coldKey) = some m1.issue := by
    rw [hc]; exact (lookup_insert ..).trans (if_pos rfl)
  obtain ⟨l, hl', le⟩ := counter_monotone_history P between _ _ _ hl
  have hv2 : (after P (verify P a m1 s1).2 between).disableValidation = false := by
    rw [after_disable, hc]; exact hv
  -- the last of the five facts: no counter cached for the pool exceeds the accepted one
  have := (accepted_sound P _ m2 s2 hv2 h2).2.2.2.2 l (by rw [← hp]; exact hl')
  omega

/-! ### symbolic binding (ideal primitives as hypotheses) -/

/-- With an injective payload hash, an id that is accepted for one payload is rejected for every
    other payload. -/
theorem id_binds_payload (hinj : ∀ p q, P.msgId p = P.msgId q → p = q)
    (m m' : Msg Payload Digest Key Sig KSig) (h : idOk P m = true) (hid : m'.id = m.id)
    (hne : m'.payload ≠ m.payload) : idOk P m' = false := by
  rw [Bool.eq_false_iff]
  intro h'
  simp only [idOk, Bool.and_eq_true, beq_iff_eq] at h h'
  -- each id is the hash of its own payload, and the ids agree
  exact hne (hinj _ _ (h'.2.symm.trans (hid.trans h.2)))

/-- With an ideal signature scheme (`certVerify` accepts exactly `sgn k vk i p`, `sgn` injective)
    a cold signature accepted for (cold key, KES key, counter, period) is rejected for any other. -/
theorem cert_binds_fields (sgn : Key → Key → Nat → Nat → Sig)
    (hbind : ∀ k vk i p σ, P.certVerify k vk i p σ = true → σ = sgn k vk i p)
    (hinj : ∀ k vk i p k' vk' i' p', sgn k vk i p = sgn k' vk' i' p' →
      k = k' ∧ vk = vk' ∧ i = i' ∧ p = p')
    (m m' : Msg Payload Digest Key Sig KSig) (h : certOk P m = true) (hs : m'.coldSig = m.coldSig)
    (hne : ¬ (m'.coldKey = m.coldKey ∧ m'.kesVk = m.kesVk ∧ m'.issue = m.issue ∧
      m'.ocPeriod = m.ocPeriod)) : certOk P m' = false := by
  rw [Bool.eq_false_iff]
  intro h'
  simp only [certOk, Bool.and_eq_true] at h h'
  -- each signature is `sgn` of its own message's fields, and the signatures agree
  have e := (hbind _ _ _ _ _ h'.2).symm.trans (hs.trans (hbind _ _ _ _ _ h.2))
  exact hne (hinj _ _ _ _ _ _ _ _ e)

/-! ### the KES-period observation, stated on the model

(See the decision in props/C46.json: a CIP-0137 conformance deviation, not a violation of the
property as stated.) -/

/-- The KES step never looks at the certificate's own KES period: two messages that differ only
    in `OperationalCertificate.KESPeriod` get the same KES verdict. -/
theorem kes_step_ignores_opcert_period (a : Auth Payload Key KSig Pool)
    (m : Msg Payload Digest Key Sig KSig) (p' : Nat) (slot : Option Nat) :
    kesOk P a { m with ocPeriod := p' } slot = kesOk P a m slot := rfl

/-- Without a caller-supplied slot the verifier is handed `kesPeriod · slotsPerKesPeriod`, i.e. (when
    the product does not wrap) it is asked about evolution `slot / spk − kesPeriod = 0`, whatever
    evolution the message was signed at. -/
theorem no_slot_checks_evolution_zero (a : Auth Payload Key KSig Pool)
    (m : Msg Payload Digest Key Sig KSig) (hspk : 0 < a.slotsPerKesPeriod)
    (hw : P.kesPeriodOf m.payload * a.slotsPerKesPeriod < 2 ^ 64) :
    slotFor P a m none / a.slotsPerKesPeriod - P.kesPeriodOf m.payload = 0 := by
  unfold slotFor
  simp only
  rw [Nat.mod_eq_of_lt hw, Nat.mul_div_cancel _ hspk]
  omega

/-- When the product wraps, the period the verifier derives is strictly smaller than the payload's
    KES period — the real verifier then answers "certificate in the future": a wrap can only turn
    an acceptance into a rejection. -/
theorem wrap_only_lowers_period (a : Auth Payload Key KSig Pool)
    (m : Msg Payload Digest Key Sig KSig) (hspk : 1 < a.slotsPerKesPeriod)
    (hw : P.kesPeriodOf m.payload * a.slotsPerKesPeriod ≥ 2 ^ 64) :
    slotFor P a m none / a.slotsPerKesPeriod < P.kesPeriodOf m.payload := by
  -- `slotFor P a m none` is the product mod 2^64: below 2^64, hence below the product itself
  exact (Nat.div_lt_iff_lt_mul (by omega)).mpr
    (Nat.lt_of_lt_of_le (Nat.mod_lt _ (Nat.two_pow_pos 64)) hw)

/-! ### regenerated source facts

The order of the five steps, the byte lengths they compare against, the rotation comparison and
the slots-per-KES-period constant are read off protocol/common/authentication.go on every run
(extract/facts_g8.go); the model was written against exactly these. A reordered step, a changed
length or a `<` turned into `<=` in the Go source breaks this obligation without any test input. -/
theorem source_facts :
    GV.Gen.DmqAuthFacts.steps =
      ["verifyMessageID", "verifyOperationalCertificate", "verifyKESSignature", "computePoolID",
       "verifyKESPeriodRotation"] ∧
    GV.Gen.DmqAuthFacts.internalConds =
      ["m.disableValidation", "msg == nil", "err != nil", "err != nil", "err != nil", "!registered",
       "err != nil"] ∧
    GV.Gen.DmqAuthFacts.verifyMessageID_lens =
      [("messageID", "==", "0"), ("messageID", "!=", "blake2b.Size256")] ∧
    GV.Gen.DmqAuthFacts.verifyOperationalCertificate_lens =
      [("coldVerificationKey", "!=", "32"), ("opcert.ColdSignature", "!=", "64")] ∧
    GV.Gen.DmqAuthFacts.verifyKESSignature_lens =
      [("msg.KESSignature", "!=", "448"), ("msg.OperationalCertificate.KESVerificationKey", "!=", "32")] ∧
    GV.Gen.DmqAuthFacts.rotationConds = ["exists && opcert.IssueNumber < lastOpCertNumber"] ∧
    GV.Gen.DmqAuthFacts.slotsPerKesPeriod = "129600" ∧
    (newAuth : Auth Nat Nat Nat Nat).slotsPerKesPeriod = 129600 :=
  ⟨rfl, rfl, rfl, rfl, rfl, rfl, rfl, rfl⟩

/-! ### TTL validator -/

/-- The TTL check accepts exactly the messages that have not expired and do not expire later than
    `now + maxTTL` (capped at the largest `uint32`); nothing wraps, for any clock value. -/
theorem ttl_ok_iff (maxTTL : Nat) (nowUnix : Int) (expiresAt : Nat) :
    validateTTLAt false maxTTL nowUnix expiresAt = .ok ↔
      nowUnix ≤ (maxU32 : Int) ∧ nowUnix ≤ (expiresAt : Int) ∧
      (expiresAt : Int) ≤ max nowUnix 0 + maxTTL ∧ expiresAt ≤ maxU32 := by
  -- the clock clamped at 0, as a natural number
  have hn : ((if nowUnix < 0 then 0 else nowUnix.toNat : Nat) : Int) = max nowUnix 0 := by
    split <;> omega
  simp only [validateTTLAt, Bool.false_eq_true, if_false, ite_eq_of_ne, reduceCtorEq, ne_eq,
    not_false_eq_true, and_true]
  generalize (if nowUnix < 0 then 0 else nowUnix.toNat) = n at hn
  omega

/-- an expired message is never accepted by an enabled validator -/
theorem ttl_expired_rejected (maxTTL : Nat) (nowUnix : Int) (expiresAt : Nat)
    (h : (expiresAt : Int) < nowUnix) : validateTTLAt false maxTTL nowUnix expiresAt = .expired := by
  unfold validateTTLAt maxU32
  by_cases h1 : nowUnix > ((4294967295 : Nat) : Int)
  · simp only [Bool.false_eq_true, if_false, h1, if_true]
  · have h2 : ¬ nowUnix < 0 := by omega
    have h3 : nowUnix.toNat > expiresAt := by omega
    simp [h2, h3]

example : validateTTLAt false 1800 1700000000 1700001800 = .ok := by decide
example : validateTTLAt false 1800 1700000000 1700001801 = .tooFar := by decide
example : validateTTLAt false 1800 4294967296 4294967295 = .expired := by decide

/-! ### non-vacuity on the symbolic instance -/
open GV.Model.DmqSym

def exMsg (issue : Nat) : Msg Pay D K S KS :=
  { idLen := 32, id := D.h ⟨1, 7, 99⟩, payload := ⟨1, 7, 99⟩, kesSig := KS.ksg 0 0 ⟨1, 7, 99⟩,
    kesSigLen := 448, kesVk := K.kvk 0, kesVkLen := 32, issue := issue, ocPeriod := 3,
    coldSig := S.csig 2 (K.kvk 0) issue 3, coldSigLen := 64, coldKey := K.cold 2, coldKeyLen := 32 }

def exAuth : Auth Pay K KS Nat :=
  { (newAuth : Auth Pay K KS Nat) with pools := [2], verifier := some realVerifier }

def verdict (r : Except Rej Unit) : Option Rej :=
  match r with | .ok _ => none | .error e => some e

/-- a fully authenticated message is accepted, a replay with a lower counter is not -/
example : verdict (verify symPrims exAuth (exMsg 5) none).1 = none := by decide
example : verdict (verify symPrims (verify symPrims exAuth (exMsg 5) none).2 (exMsg 4) none).1
    = some .rotation := by decide
example : verdict (verify symPrims { exAuth with verifier := none } (exMsg 5) none).1
    = some .kes := by decide
example : ∀ p q, symPrims.msgId p = symPrims.msgId q → p = q := by
  intro p q h; exact D.h.inj h
example : ∀ k vk i p σ, symPrims.certVerify k vk i p σ = true →
    σ = (fun k vk i p => match k with | K.cold n => S.csig n vk i p | _ => S.junk) k vk i p := by
  intro k vk i p σ h
  simp only [symPrims] at h
  split at h
  · simp only [Bool.and_eq_true, beq_iff_eq] at h
    obtain ⟨⟨⟨rfl, rfl⟩, rfl⟩, rfl⟩ := h
    rfl
  · cases h

end GV.Props.C46
