import GV.Model.SyncLoop
import GV.Proofs.StepSystem
import GV.Gen.ChainSyncEraMaps
import GV.Gen.ChainSyncLimits
/-!
C21 — Chain-sync delivers the server's chain updates faithfully.

Over **every schedule** (interleaving of reply handling, AwaitReply handling and
sync-loop iterations), every server history, every configured limit and every
pattern of callbacks asking to stop:
* callbacks are made once per server message, in the server's order (`callbacks_in_order`);
* requests sent and not yet answered never exceed `max(effective limit, 1)`
  (`outstanding_le_limit`), where limit 0 means the default (`effLimit`);
* the handler's signal to the sync loop always finds room in the buffered
  channel, so the receive loop is never blocked by it (`buffer_never_full`);
* while syncing, a quiet client always has a request outstanding
  (`always_one_outstanding`), and the number of requests it has issued is a
  function of the number of replies consumed alone (`sent_determined`).
-/
namespace GV.Props.C21
open GV.Model.SyncLoop

theorem default_regenerated : GV.Gen.ChainSyncEraMaps.defaultPipelineLimit = defaultPipelineLimit := by decide

theorem effLimit_pos (cfg : Nat) : 1 ≤ effLimit cfg := by
  unfold effLimit defaultPipelineLimit; split <;> omega

theorem effLimit_le {cfg m : Nat} (hd : defaultPipelineLimit ≤ m) (h : cfg ≤ m) : effLimit cfg ≤ m := by
  unfold effLimit; split <;> assumption

theorem batch_eff (cfg : Nat) : batch (effLimit cfg) = effLimit cfg := by
  have := effLimit_pos cfg
  unfold batch; omega

/-- The invariant, relative to the configured limit and the server's whole history.
    The idea is `window`: the requests not yet answered plus the signals the sync loop has not yet
    read are at most `counter + 1` — the pipelined requests still to be counted down, and the one
    that keeps the loop going — with equality while the loop runs (`running_eq`).  Since
    `counter < batch limit`, that bounds the outstanding requests and the content of the channel.
    `loop_fn`: `sent` and `counter` are a function of the signals consumed.  `cbs_prefix`,
    `cbs_len`: the callbacks made are the handled prefix of the history. -/
structure Inv (cfg : Nat) (hist : List Msg) (s : St) : Prop where
  limit_eq : s.limit = effLimit cfg
  handled_le : s.handled ≤ s.sent
  window : s.sent + s.sigs.length ≤ s.counter + 1 + s.handled
  counter_lt : s.counter + 1 ≤ batch s.limit
  loop_fn : (s.sent, s.counter) = loopState s.limit s.consumed
  running_eq : s.running = true → s.sent + s.sigs.length = s.counter + 1 + s.handled
  cbs_prefix : s.cbs ++ s.hist.map (·.tag) = hist.map (·.tag)
  cbs_len : s.cbs.length = s.handled

theorem inv_init (cfg : Nat) (hist : List Msg) : Inv cfg hist (St.init cfg hist) := by
  have := effLimit_pos cfg
  constructor <;> simp [St.init, loopState, batch] <;> omega

/-- the second conjunct: the sync loop consumes only signals the handler has produced -/
theorem inv_step (cfg : Nat) (hist : List Msg) (s s' : St) (a : Act)
    (h : Inv cfg hist s ∧ s.consumed + s.sigs.length ≤ s.handled) (hs : step s a = some s') :
    Inv cfg hist s' ∧ s'.consumed + s'.sigs.length ≤ s'.handled := by
  have hpos : 1 ≤ batch s.limit := by unfold batch; omega
  obtain ⟨⟨limit_eq, handled_le, window, counter_lt, loop_fn, running_eq, cbs_prefix, cbs_len⟩, consumed_le⟩ := h
  revert hs
  fun_cases step s a <;> intro hs <;> cases hs
  -- an AwaitReply changes nothing
  case case1 =>
    exact ⟨⟨limit_eq, handled_le, window, counter_lt, loop_fn, running_eq, cbs_prefix, cbs_len⟩, consumed_le⟩
  -- a reply is handed to the handler
  case case3 m rest hh hc =>
    refine ⟨⟨limit_eq, ?_, ?_, counter_lt, loop_fn, ?_, ?_, ?_⟩, ?_⟩ <;>
      simp only [List.length_append, List.length_cons, List.length_nil]
    · omega
    · omega
    · intro hr; have := running_eq hr; omega
    · rw [hh] at cbs_prefix; simpa [List.append_assoc] using cbs_prefix
    · omega
    · omega
  -- the sync loop takes the signal `false`: it stops
  case case6 hr rest hsig =>
    have running_eq' := running_eq hr
    simp only [hsig, List.length_cons] at window running_eq' consumed_le
    exact ⟨{ limit_eq, handled_le, counter_lt, loop_fn, cbs_prefix, cbs_len
             window := by simp only; omega
             running_eq := by simp }, by simp only; omega⟩
  -- it takes `true` with requests still to be counted down
  case case7 hr rest hsig hc =>
    have running_eq' := running_eq hr
    simp only [hsig, List.length_cons] at window running_eq' consumed_le
    refine ⟨{ limit_eq, handled_le, cbs_prefix, cbs_len
              window := by simp only; omega
              counter_lt := by simp only; omega
              running_eq := fun _ => by simp only; omega
              loop_fn := ?_ }, by simp only; omega⟩
    simp only [loopState, ← loop_fn, hc, ↓reduceIte]
  -- it takes `true` with the counter at 0: the next batch is sent
  case case8 hr rest hsig hc =>
    have running_eq' := running_eq hr
    simp only [hsig, List.length_cons] at window running_eq' consumed_le
    refine ⟨{ limit_eq, cbs_prefix, cbs_len
              handled_le := by simp only; omega
              window := by simp only; omega
              counter_lt := by simp only; omega
              running_eq := fun _ => by simp only; omega
              loop_fn := ?_ }, by simp only; omega⟩
    simp only [loopState, ← loop_fn, hc, ↓reduceIte]

theorem run_eq_foldlM (s : St) (sched : List Act) : run s sched = sched.foldlM step s := by
  fun_induction run s sched <;> simp [*]

theorem inv_run {cfg : Nat} {hist : List Msg} {sched : List Act} {s : St}
    (hr : run (St.init cfg hist) sched = some s) : Inv cfg hist s ∧ s.consumed + s.sigs.length ≤ s.handled :=
  GV.StepSystem.foldlM_invariant sched (fun s a s' _ => inv_step cfg hist s s' a) ⟨inv_init cfg hist, Nat.le_refl _⟩
    (run_eq_foldlM _ sched ▸ hr)

/-- **Pipelining bound.** Under every schedule, for every history and limit: the
    requests sent and not yet answered never exceed max(effective limit, 1). -/
theorem outstanding_le_limit (cfg : Nat) (hist : List Msg) (sched : List Act) (s : St)
    (h : run (St.init cfg hist) sched = some s) : s.outstanding ≤ max (effLimit cfg) 1 := by
  have hi := (inv_run h).1
  have h1 := hi.window
  have h2 := hi.counter_lt
  rw [hi.limit_eq] at h2
  unfold St.outstanding batch at *
  omega

/-- for the limits the configuration admits (0..100) that is at most 100 -/
theorem outstanding_le_100 (cfg : Nat) (hcfg : cfg ≤ 100) (hist : List Msg) (sched : List Act) (s : St)
    (h : run (St.init cfg hist) sched = some s) : s.outstanding ≤ 100 := by
  have := outstanding_le_limit cfg hist sched s h
  have : effLimit cfg ≤ 100 := effLimit_le (by decide) hcfg
  omega

/-- **Faithful delivery.** The callbacks made so far are exactly the first
    `handled` messages of the server's history, each once, in order. -/
theorem callbacks_in_order (cfg : Nat) (hist : List Msg) (sched : List Act) (s : St)
    (h : run (St.init cfg hist) sched = some s) :
    s.cbs = (hist.map (·.tag)).take s.handled ∧ s.cbs.length = s.handled := by
  have hi := (inv_run h).1
  refine ⟨?_, hi.cbs_len⟩
  rw [← hi.cbs_prefix, ← hi.cbs_len]
  simp

/-- The handler's send on `readyForNextBlockChan` never blocks: whenever the
    engine can hand over a reply, the buffered channel has room. -/
theorem buffer_never_full (cfg : Nat) (hist : List Msg) (sched : List Act) (s : St)
    (h : run (St.init cfg hist) sched = some s) (hout : s.handled < s.sent) :
    s.sigs.length < s.limit := by
  have hi := (inv_run h).1
  have h1 := hi.window
  have h2 := hi.counter_lt
  have h3 := hi.limit_eq
  have := effLimit_pos cfg
  unfold batch at h2
  omega

/-- hence delivery is enabled exactly when the server has something to say and a request is open -/
theorem deliver_enabled (cfg : Nat) (hist : List Msg) (sched : List Act) (s : St)
    (h : run (St.init cfg hist) sched = some s) (hout : s.handled < s.sent) (hmore : s.hist ≠ []) :
    (step s .deliver).isSome = true := by
  have := buffer_never_full cfg hist sched s h hout
  unfold step
  cases hh : s.hist with
  | nil => exact absurd hh hmore
  | cons m rest => simp [hout, this]

/-- While the sync loop runs and has nothing left to consume, a request is outstanding:
    the server can always make progress, the client never idles with nothing asked. -/
theorem always_one_outstanding (cfg : Nat) (hist : List Msg) (sched : List Act) (s : St)
    (h : run (St.init cfg hist) sched = some s) (hr : s.running = true) (hq : s.sigs = []) :
    1 ≤ s.outstanding := by
  have hi := (inv_run h).1
  have := hi.running_eq hr
  rw [hq] at this
  simp only [List.length_nil] at this
  unfold St.outstanding; omega

/-- The number of requests issued depends only on how many replies the sync loop
    has consumed — not on the schedule. -/
theorem sent_determined (cfg : Nat) (hist : List Msg) (sched : List Act) (s : St)
    (h : run (St.init cfg hist) sched = some s) :
    s.sent = (loopState (effLimit cfg) s.consumed).1 ∧ s.consumed ≤ s.handled := by
  have hi := (inv_run h).1
  have h5 := hi.loop_fn
  rw [hi.limit_eq] at h5
  exact ⟨by rw [← h5], Nat.le_trans (Nat.le_add_right _ _) (inv_run h).2⟩

/-! ### stopping, and the sync loop's own sends, against the engine's bounded send queue

`Client.Stop` sends Done, and `syncLoop` sends its batch of RequestNext, through the
protocol engine's send queue. Its capacity and the maximum pipeline limit are
regenerated from the source (`GV.Gen.ChainSyncLimits`). Before the commit "fix: protocol send
queue holds a full chain-sync pipeline batch plus Done" the capacity was 80, below the maximum
limit 100, and Stop could block in SendMessage while holding its lifecycle mutex (finding
`stop-sendqueue-full`); since then the queue holds a whole batch plus Done
(`queue_holds_batch_and_done`). -/

/-- the regenerated numbers: the send queue holds a full pipelined batch and the Done message,
    and the default limit is the model's -/
theorem queue_holds_batch_and_done :
    GV.Gen.ChainSyncLimits.maxPipelineLimit + 1 ≤ GV.Gen.ChainSyncLimits.sendQueueCap ∧
    GV.Gen.ChainSyncLimits.defaultPipelineLimit = GV.Model.SyncLoop.defaultPipelineLimit ∧
    GV.Gen.ChainSyncLimits.defaultPipelineLimit ≤ GV.Gen.ChainSyncLimits.maxPipelineLimit ∧
    0 < GV.Gen.ChainSyncLimits.defaultPipelineDrainTimeoutNs := by decide

/-- full clause: whenever the client is stopped, Done finds room in the send queue behind
    every request not yet answered (an upper bound of those not yet on the wire) -/
def C21_stop_full : Prop :=
  ∀ cfg, cfg ≤ GV.Gen.ChainSyncLimits.maxPipelineLimit → ∀ (hist : List Msg) (sched : List Act) (s : St),
    run (St.init cfg hist) sched = some s →
    fitsQueue GV.Gen.ChainSyncLimits.sendQueueCap s.outstanding 1 = true

theorem eff_le_max (cfg : Nat) (h : cfg ≤ GV.Gen.ChainSyncLimits.maxPipelineLimit) :
    effLimit cfg ≤ GV.Gen.ChainSyncLimits.maxPipelineLimit :=
  effLimit_le (queue_holds_batch_and_done.2.1 ▸ queue_holds_batch_and_done.2.2.1) h

/-- **Stop never waits for room**: for every admissible limit, schedule and history. -/
theorem stop_done_fits : C21_stop_full := by
  intro cfg hcfg hist sched s h
  have h1 := outstanding_le_limit cfg hist sched s h
  have h2 := effLimit_pos cfg
  have h3 := eff_le_max cfg hcfg
  have h4 := queue_holds_batch_and_done.1
  unfold fitsQueue
  simp only [decide_eq_true_eq]
  omega

/-- the sync loop's batch always fits too (it sends only when nothing it sent before is
    unanswered beyond one request), so `syncLoop` never blocks in SendMessage holding busyMutex -/
theorem batch_fits (cfg : Nat) (hcfg : cfg ≤ GV.Gen.ChainSyncLimits.maxPipelineLimit) (hist : List Msg)
    (sched : List Act) (s : St) (h : run (St.init cfg hist) sched = some s)
    (hc : s.counter = 0) (hr : s.running = true) :
    fitsQueue GV.Gen.ChainSyncLimits.sendQueueCap s.outstanding (batch s.limit) = true := by
  have hi := (inv_run h).1
  have h1 := hi.window
  have h3 := eff_le_max cfg hcfg
  have h4 := queue_holds_batch_and_done.1
  have h5 := hi.limit_eq
  have h6 := effLimit_pos cfg
  unfold fitsQueue St.outstanding batch
  simp only [decide_eq_true_eq]
  omega

/-- the code before that commit: with capacity 80 and limit 100 the clause fails one reply in -/
theorem old_capacity_witness :
    ∃ (s : St), run (St.init 100 [⟨0, false⟩]) [.deliver, .loop] = some s ∧ fitsQueue 80 s.outstanding 1 = false := by
  exact ⟨_, rfl, by decide⟩

/-! ### with a block pipeline -/

theorem pipeline_order_step (w : List SrvMsg) (s s' : PSt) (a : PAct)
    (h : s.drains = true ∧ s.log ++ (s.pending.map SrvMsg.fwd ++ s.hist) = w) (hst : pstep s a = some s') :
    s'.drains = true ∧ s'.log ++ (s'.pending.map SrvMsg.fwd ++ s'.hist) = w := by
  obtain ⟨hd, rfl⟩ := h
  revert hst
  fun_cases pstep s a <;> intro hst <;> cases hst
  -- a roll-forward is submitted to the pipeline
  case case2 t r hh => simp [hd, hh]
  -- a roll-backward is handled only once the pipeline has drained
  case case4 t r hh hc =>
    have hp : s.pending = [] := by simpa [hd] using hc
    simp [hd, hh, hp]
  -- the pipeline applies its oldest pending block
  case case6 t r hp => simp [hd, hp]

theorem prun_eq_foldlM (s : PSt) (sched : List PAct) : prun s sched = sched.foldlM pstep s := by
  fun_induction prun s sched <;> simp [*]

/-- **Faithful delivery with a block pipeline.** Under every schedule the sequence of applied
    roll-forwards and roll-backward callbacks is a prefix of the server's history: a
    roll-backward callback never overtakes a roll-forward still being applied. -/
theorem pipeline_callbacks_in_order (hist : List SrvMsg) (sched : List PAct) (s : PSt)
    (h : prun ⟨true, hist, [], []⟩ sched = some s) :
    ∃ rest, s.log ++ rest = hist :=
  ⟨s.pending.map SrvMsg.fwd ++ s.hist, (GV.StepSystem.foldlM_invariant sched (fun s a s' _ => pipeline_order_step hist s s' a)
    ⟨rfl, rfl⟩ (prun_eq_foldlM _ sched ▸ h)).2⟩

/-- without the drain (what a skipped `WaitForDrain` gives) the rollback overtakes the block -/
theorem no_drain_overtakes_witness :
    (prun ⟨false, [.fwd 1, .back 2], [], []⟩ [.handle, .handle, .apply]).map (·.log) =
      some [.back 2, .fwd 1] := by decide

/-- with the drain that schedule is refused (the handler waits) and the only order is the server's -/
example : (prun ⟨true, [.fwd 1, .back 2], [], []⟩ [.handle, .handle, .apply]).isNone = true := by decide
example : (prun ⟨true, [.fwd 1, .back 2], [], []⟩ [.handle, .apply, .handle]).map (·.log) =
    some [.fwd 1, .back 2] := by decide

/-- closed form used by the harness for pacing: requests issued after j ≥ 1 replies
    with limit 3 are 4, 4, 4, 7, 7, 7, 10 … (checked on an initial segment) -/
example : (List.range 8).map (fun j => (loopState 3 j).1) = [1, 4, 4, 4, 7, 7, 7, 10] := by decide

/-- non-vacuity: a schedule that really runs (limit 2; three replies, the sync loop
    lagging behind), ending with 2 outstanding = the limit -/
example : (run (St.init 2 [⟨10, false⟩, ⟨11, false⟩, ⟨12, false⟩])
    [.deliver, .loop, .deliver, .deliver, .loop, .loop]).map
      (fun s => (s.sent, s.handled, s.cbs, s.outstanding)) = some (5, 3, [10, 11, 12], 2) := by decide

/-- … and delivery is refused when nothing is outstanding -/
example : run (St.init 1 [⟨1, false⟩, ⟨2, false⟩]) [.deliver, .deliver] = none := by decide

end GV.Props.C21
