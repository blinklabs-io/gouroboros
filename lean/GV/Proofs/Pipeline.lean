import GV.Model.Pipeline
import GV.Proofs.StepSystem
/-
  The pipeline step system as a relation (`Step`), what a step does to the blocks on their way to
  the apply stage (`Flow`), and the invariant `NoGap` of C44.
-/
namespace GV.Proofs.Pipeline
open GV.Model.Pipeline

theorem run_eq_foldlM (c : Cfg) (s : St) (es : List Ev) : run c s es = es.foldlM (step c) s := by
  fun_induction run c s es <;> simp [*]

theorem run_append (c : Cfg) (s : St) (a b : List Ev) :
    run c s (a ++ b) = (run c s a).bind fun s1 => run c s1 b := by
  simp only [run_eq_foldlM, List.foldlM_append]; rfl

theorem run_invariant {c : Cfg} {P : St → Prop} {es : List Ev}
    (hstep : ∀ s e s', e ∈ es → P s → step c s e = some s' → P s') {s s' : St} (h : P s)
    (hr : run c s es = some s') : P s' :=
  StepSystem.foldlM_invariant es hstep h (run_eq_foldlM c s es ▸ hr)

theorem reachable_run {c : Cfg} {s s' : St} (es : List Ev) (h : Reachable c s) (hr : run c s es = some s') :
    Reachable c s' :=
  h.elim fun es0 h0 => ⟨es0 ++ es, by rw [run_append, h0]; exact hr⟩

/-- `step` as a relation: one constructor for each way an event is admitted. Where `step` looks at
    the runner, the state before the step is written `{ s with runner := _ }`: after `cases`, whatever
    depends on the runner (`upstream`, `processed`, later `decided`, `outAll`, `runnerMeasure`) then
    computes in both states, and the cases in which a fact is untouched close by `rfl` or `exact h`. -/
inductive Step (c : Cfg) : St → Ev → St → Prop
  | enter {s : St} : Step c s .enter { s with waiters := s.waiters + 1 }
  | giveup {s : St} : s.waiters > 0 → Step c s .giveup { s with waiters := s.waiters - 1 }
  | acq {s : St} {x : Item} : s.started = true → s.closed = false → s.turn = none → s.waiters > 0 → x.seq = s.counter →
      Step c s (.acq x) { s with turn := some x, waiters := s.waiters - 1 }
  | sub {s : St} {x : Item} : s.started = true → s.closed = false → x.seq = s.counter → s.turn = some x →
      Step c s (.sub x)
        { s with subCh := x :: s.subCh, counter := s.counter + 1, subs := s.subs ++ [x], turn := none }
  | failLegacy {s : St} : s.turn.isSome = true → c.legacy = true →
      Step c s .fail
        { s with counter := s.counter + 1, subs := s.subs ++ [⟨s.counter, false, false⟩], turn := none }
  | fail {s : St} : s.turn.isSome = true → c.legacy = false → Step c s .fail { s with turn := none }
  | dt {s : St} {x : Item} : x ∈ s.subCh → Step c s (.dt x) { s with subCh := s.subCh.erase x, decW := x :: s.decW }
  | dpMid {s : St} {x : Item} : x ∈ s.decW → c.validate = true →
      Step c s (.dp x) { s with decW := s.decW.erase x, midCh := x :: s.midCh }
  | dpIn {s : St} {x : Item} : x ∈ s.decW → c.validate = false →
      Step c s (.dp x) { s with decW := s.decW.erase x, inCh := x :: s.inCh }
  | dd {s : St} {x : Item} : x ∈ s.decW → s.cancelled = true → Step c s (.dd x) { s with decW := s.decW.erase x }
  | vt {s : St} {x : Item} : c.validate = true → x ∈ s.midCh →
      Step c s (.vt x) { s with midCh := s.midCh.erase x, valW := x :: s.valW }
  | vp {s : St} {x : Item} : x ∈ s.valW → Step c s (.vp x) { s with valW := s.valW.erase x, inCh := x :: s.inCh }
  | vd {s : St} {x : Item} : x ∈ s.valW → s.cancelled = true → Step c s (.vd x) { s with valW := s.valW.erase x }
  | at_ {s : St} {x : Item} : x ∈ s.inCh →
      Step c { s with runner := .fwd [] } (.at_ x) { s with inCh := s.inCh.erase x, runner := .hand x }
  | ax {s : St} {x : Item} : s.cancelled = true → Step c { s with runner := .hand x } (.ax x) { s with runner := .fwd [] }
  | ab {s : St} {x : Item} : x.seq ≠ s.nextSeq →
      Step c { s with runner := .hand x } (.ab x) { s with runner := .fwd [], pending := x :: s.pending }
  | aqHand {s : St} {x : Item} : x.seq = s.nextSeq →
      Step c { s with runner := .hand x } (.aq x) { s with runner := .deq x [], nextSeq := s.nextSeq + 1 }
  | aqDrain {s : St} {x : Item} {out : List Item} : x ∈ s.pending → x.seq = s.nextSeq →
      Step c { s with runner := .drain out } (.aq x)
        { s with runner := .deq x out, pending := s.pending.erase x, nextSeq := s.nextSeq + 1 }
  | ap {s : St} {x : Item} {out : List Item} : x.ok c = true →
      Step c { s with runner := .deq x out } (.ap x)
        { s with runner := .inApply x out, applied := s.applied ++ [x.seq] }
  | adSkip {s : St} {x : Item} {out : List Item} : (x.ok c = false ∨ s.cancelled = true) →
      Step c { s with runner := .deq x out } (.ad x) { s with runner := .drain (out ++ [x]) }
  | adDone {s : St} {x : Item} {out : List Item} :
      Step c { s with runner := .inApply x out } (.ad x) { s with runner := .drain (out ++ [x]) }
  | rsDrain {s : St} {z : Item} {rest : List Item} :
      (s.cancelled = true ∨ ∀ p ∈ s.pending, p.seq ≠ s.nextSeq) →
      Step c { s with runner := .drain (z :: rest) } (.rs z)
        { s with runner := .fwd rest, results := s.results ++ [z.seq] }
  | rsFwd {s : St} {z : Item} {rest : List Item} :
      Step c { s with runner := .fwd (z :: rest) } (.rs z)
        { s with runner := .fwd rest, results := s.results ++ [z.seq] }
  | rdDrain {s : St} {z : Item} {rest : List Item} : s.cancelled = true →
      Step c { s with runner := .drain (z :: rest) } (.rd z) { s with runner := .fwd rest }
  | rdFwd {s : St} {z : Item} {rest : List Item} : s.cancelled = true →
      Step c { s with runner := .fwd (z :: rest) } (.rd z) { s with runner := .fwd rest }
  | start {s : St} : s.started = false → s.closed = false → Step c s .start { s with started := true }
  | cancel {s : St} : s.started = true → Step c s .cancel { s with cancelled := true }
  | close {s : St} : s.cancelled = true → Step c s .close { s with closed := true }
  | pc {s : St} {n : Nat} : Step c s (.pc n) s
  | pcq {s : St} : Step c s (.pcq (pendingCount s)) s
  | pa {s : St} : Step c s (.pa (processed s)) { s with reads := (s.counter - processed s) :: s.reads }
  | pb {s : St} {n p : Nat} : s.reads.find? (fun p => decide (p ≤ n)) = some p →
      Step c s (.pb n) { s with reads := s.reads.erase p }

private theorem runner_eta {s : St} {r : Runner} (h : s.runner = r) : { s with runner := r } = s := by rw [← h]

theorem Step.of_step {c : Cfg} {s s' : St} {e : Ev} (hs : step c s e = some s') : Step c s e s' := by
  -- Case analysis along the definition of `step`. The runner is made a variable first, so that the
  -- cases `step` distinguishes on it show in the state before the step, as in the constructors.
  rw [← runner_eta (s := s) rfl] at hs ⊢
  generalize s.runner = r at hs ⊢
  revert hs
  fun_cases step c { s with runner := r } e
  all_goals try fun_cases fwdStep
  -- a branch that yields `none` ends here
  all_goals intro hs; cases hs
  -- every other branch is one constructor, once the block its guard names is put in
  all_goals try obtain ⟨rfl, _⟩ := ‹_ ∧ _›
  all_goals subst_vars
  all_goals constructor <;> simp_all

theorem reachable_induction {c : Cfg} {P : St → Prop} (h0 : P init)
    (hstep : ∀ {s e s'}, P s → Step c s e s' → P s') : ∀ s, Reachable c s → P s :=
  fun _ ⟨_, hr⟩ => run_invariant (fun s e s' _ hp hs => @hstep s e s' hp (.of_step hs)) h0 hr

/-- What a step from `s` does to the blocks on their way to the apply stage and to the two counters
    that delimit them: `Flow c s u n l k b` speaks of `upstream`, `counter`, `subs`, `nextSeq` and
    `cancelled` after the step. -/
inductive Flow (c : Cfg) (s : St) : List Item → Nat → List Item → Nat → Bool → Prop
  /-- blocks only change places -/
  | move {u : List Item} : u.Perm (upstream s) → Flow c s u s.counter s.subs s.nextSeq s.cancelled
  /-- Submit accepts `x` -/
  | sub (x : Item) : x.seq = s.counter →
      Flow c s (x :: upstream s) (s.counter + 1) (s.subs ++ [x]) s.nextSeq s.cancelled
  /-- a failed Submit keeps its number (before the repair) -/
  | burn (x : Item) : c.legacy = true → x.seq = s.counter →
      Flow c s (upstream s) (s.counter + 1) (s.subs ++ [x]) s.nextSeq s.cancelled
  /-- the apply stage dequeues `x` -/
  | deq (x : Item) {u : List Item} : x.seq = s.nextSeq → (upstream s).Perm (x :: u) →
      Flow c s u s.counter s.subs (s.nextSeq + 1) s.cancelled
  /-- Stop has begun: blocks may be dropped -/
  | stop {u : List Item} {b : Bool} : b = true → u.Sublist (upstream s) → Flow c s u s.counter s.subs s.nextSeq b

theorem perm_move {x : Item} {A : List Item} (h : x ∈ A) (L M B : List Item) :
    (L ++ A.erase x ++ M ++ x :: B).Perm (L ++ A ++ M ++ B) := by
  simp only [List.append_assoc, List.perm_append_left_iff]
  exact (List.perm_middle.append_left _).trans
    (List.perm_middle.trans ((List.perm_cons_erase h).symm.append_right _))

theorem perm_adj {x : Item} {A : List Item} (h : x ∈ A) (L B : List Item) :
    (L ++ A.erase x ++ x :: B).Perm (L ++ A ++ B) := by
  simpa using perm_move h L [] B

theorem Step.flow {c : Cfg} {s s' : St} {e : Ev} (h : Step c s e s') :
    Flow c s (upstream s') s'.counter s'.subs s'.nextSeq s'.cancelled := by
  cases h with
  | sub _ _ hx _ => exact .sub _ hx
  | failLegacy _ hl => exact .burn _ hl rfl
  | dt hx =>  -- the source list `subCh` heads `upstream`: nothing stands to its left
    refine .move ?_
    dsimp only [upstream]
    simp only [List.perm_append_right_iff]
    exact perm_adj hx [] _
  | dpMid hx _ | vt _ hx | vp hx | at_ hx =>
    refine .move ?_
    dsimp only [upstream]
    simp only [List.perm_append_right_iff]
    exact perm_adj hx _ _
  | dpIn hx _ =>
    refine .move ?_
    dsimp only [upstream]
    simp only [List.perm_append_right_iff, List.append_assoc _ s.midCh]
    exact perm_move hx _ _ _
  | ab _ => exact .move (.of_eq (by simp only [upstream, List.append_assoc, List.cons_append, List.nil_append]))
  | aqHand hx => exact .deq _ hx (List.perm_middle.append_right _)
  | aqDrain hp hx => exact .deq _ hx (((List.perm_cons_erase hp).append_left _).trans List.perm_middle)
  | dd hx hc | vd hx hc =>
    refine .stop hc ?_
    dsimp only [upstream]
    simp only [List.append_sublist_append_right]
    exact List.erase_sublist.append_left _
  | ax hc => exact .stop hc (((List.nil_sublist _).append_left _).append_right _)
  | cancel => exact .stop rfl (.refl _)
  | _ => exact .move (.refl _)

/-- C44 invariant: sequence numbers are dense between the apply stage and Submit. -/
structure NoGap (s : St) : Prop where
  lt_counter : ∀ x ∈ upstream s, x.seq < s.counter
  next_le : s.nextSeq ≤ s.counter
  present : s.cancelled = false → ∀ i, s.nextSeq ≤ i → i < s.counter → ∃ x ∈ upstream s, x.seq = i
  not_buffered : s.cancelled = false →
    match s.runner with
    | .fwd _ => ∀ p ∈ s.pending, p.seq ≠ s.nextSeq
    | .hand _ => ∀ p ∈ s.pending, p.seq ≠ s.nextSeq
    | _ => True

theorem noGap_init : NoGap init := by
  constructor <;> simp [init, upstream]

end GV.Proofs.Pipeline
