import GV.Proofs.PipelineHist
import GV.Proofs.PipelineLive
/-!
C42 — The block pipeline applies each good block once, in order.

Every block submitted to a started pipeline is applied exactly once, in submission order,
if it decodes (and, when enabled, validates); a block that fails is never applied. Every
submitted block appears exactly once on the results stream. Stopping concurrently with
submissions never panics and ends all pipeline goroutines.

Model: `GV.Model.Pipeline`. Channels are bags and the number of workers is unbounded, so
the theorems cover every buffer size, every 1..N workers per stage and every stage latency;
`Reachable` quantifies over all schedules, including Stop (`cancel`, `close`) at any point.
`subs` is the history of accepted submissions in sequence order, `applied` the history of
ApplyFunc calls, `results` the history of sends on the results channel.
Only `at_rest_all_delivered` needs the repaired `Submit` (`legacy = false`); the other theorems
rest on the history invariant `Hist`, which holds before the repair too.
-/
namespace GV.Props.C42
open GV.Model.Pipeline GV.Proofs.Pipeline

/-- While the pipeline is not being stopped, the ApplyFunc call
    sequence is exactly the good blocks among the first `decided s` accepted ones, in
    submission order, each once (`decided s` = `nextSequence`, minus the block in hand). -/
theorem applied_is_prefix_filter (c : Cfg) (hc : c.legacy = false) (s : St) (hr : Reachable c s)
    (hcn : s.cancelled = false) :
    s.applied = okSeqs c (s.subs.take (decided s)) :=
  (hist_reachable c s hr).applied.eq hcn

/-- In every reachable state, also during and after Stop: blocks are applied in strictly
    increasing sequence order (so none twice), and only good accepted blocks are applied. -/
theorem applied_in_order_at_most_once (c : Cfg) (hc : c.legacy = false) (s : St) (hr : Reachable c s) :
    s.applied.Pairwise (· < ·) ∧ ∀ q ∈ s.applied, ∃ x ∈ s.subs, x.seq = q ∧ x.ok c = true :=
  have hh := hist_reachable c s hr
  ⟨hh.applied_sorted, hh.applied_ok⟩

/-- A block that does not decode (or, with validation enabled, does
    not validate) is never handed to ApplyFunc. -/
theorem failed_never_applied (c : Cfg) (hc : c.legacy = false) (s : St) (hr : Reachable c s)
    (x : Item) (hx : x ∈ s.subs) (hbad : x.ok c = false) : x.seq ∉ s.applied := by
  have hh := hist_reachable c s hr
  intro hmem
  obtain ⟨y, hy, hyq, hyok⟩ := hh.applied_ok _ hmem
  obtain rfl := seq_inj hh.subs_seq hy hx hyq
  exact Bool.false_ne_true (hbad.symm.trans hyok)

/-- Results are sent in strictly increasing sequence order (no block
    twice), and while the pipeline is not being stopped the sent results followed by the
    processed-but-not-yet-forwarded blocks are exactly the sequence numbers `0 .. nextSequence-1`:
    every block the apply stage has dequeued appears exactly once. -/
theorem each_once_on_results (c : Cfg) (hc : c.legacy = false) (s : St) (hr : Reachable c s) :
    s.results.Pairwise (· < ·) ∧ (∀ q ∈ s.results, q < s.nextSeq) ∧
    (s.cancelled = false → s.results ++ (outAll s).map Item.seq = List.range s.nextSeq) :=
  have hh := hist_reachable c s hr
  have hres : s.results.Sublist (List.range s.nextSeq) := (List.sublist_append_left _ _).trans hh.out.sub
  ⟨List.pairwise_lt_range.sublist hres, fun _ hq => List.mem_range.mp (hres.subset hq), hh.out.eq⟩

/-- At rest (no pipeline goroutine can move) and not stopped: every accepted block is on the
    results stream exactly once, and the applied blocks are exactly the good ones, in order. -/
theorem at_rest_all_delivered (c : Cfg) (hc : c.legacy = false) (s : St) (hr : Reachable c s)
    (hcn : s.cancelled = false) (hq : Quiescent s) :
    s.applied = okSeqs c s.subs ∧ s.results = List.range s.counter ∧ s.nextSeq = s.counter :=
  (noGap_hist_reachable c hc s hr).elim fun hg hh => at_rest hg hh hcn hq

/-- No stuck state: in every reachable state that is not at rest some pipeline goroutine can
    take a step (the pipeline never deadlocks internally). -/
theorem no_stuck_state (c : Cfg) (s : St) (hr : Reachable c s) (hq : ¬ Quiescent s) :
    ∃ e, internal e = true ∧ (step c s e).isSome = true :=
  progress c s (wf_reachable c s hr) hq

/-- Every step of a pipeline goroutine strictly decreases the measure: from any state the
    goroutines reach rest after at most `measure s` steps unless new blocks are submitted. -/
theorem goroutine_steps_decrease (c : Cfg) (s : St) (e : Ev) (s' : St)
    (hi : internal e = true) (hs : step c s e = some s') : measure s' < measure s :=
  internal_step_decreases hi (.of_step hs)

/-- Once Stop has closed the submit channel no schedule, however long,
    contains more than `measure s` steps of pipeline goroutines: they all come to an end. -/
theorem stop_terminates (c : Cfg) (hc : c.legacy = false) (es : List Ev) (s s' : St)
    (hcl : s.closed = true) (hrun : run c s es = some s') :
    (es.filter internal).length ≤ measure s := by
  have := run_bounded es (.inl hcl) hrun
  omega

/-- Non-vacuity: two workers' worth of reordering, a block that fails to decode, Stop at the end. -/
example :
    (run ⟨true, false⟩ init
      [.start, .enter, .acq ⟨0, true, true⟩, .sub ⟨0, true, true⟩, .enter, .acq ⟨1, false, false⟩, .sub ⟨1, false, false⟩, .enter, .acq ⟨2, true, true⟩, .sub ⟨2, true, true⟩,
       .dt ⟨2, true, true⟩, .dt ⟨0, true, true⟩, .dp ⟨2, true, true⟩, .vt ⟨2, true, true⟩,
       .vp ⟨2, true, true⟩, .at_ ⟨2, true, true⟩, .ab ⟨2, true, true⟩, .dt ⟨1, false, false⟩,
       .dp ⟨1, false, false⟩, .dp ⟨0, true, true⟩, .vt ⟨0, true, true⟩, .vt ⟨1, false, false⟩,
       .vp ⟨1, false, false⟩, .at_ ⟨1, false, false⟩, .ab ⟨1, false, false⟩, .vp ⟨0, true, true⟩,
       .at_ ⟨0, true, true⟩, .aq ⟨0, true, true⟩, .ap ⟨0, true, true⟩, .ad ⟨0, true, true⟩,
       .aq ⟨1, false, false⟩, .ad ⟨1, false, false⟩, .aq ⟨2, true, true⟩, .ap ⟨2, true, true⟩,
       .ad ⟨2, true, true⟩, .rs ⟨0, true, true⟩, .rs ⟨1, false, false⟩, .rs ⟨2, true, true⟩,
       .cancel, .close]).map
      (fun s => (decide (Quiescent s), s.applied, s.results, measure s))
      = some (true, [0, 2], [0, 1, 2], 0) := by decide

end GV.Props.C42
