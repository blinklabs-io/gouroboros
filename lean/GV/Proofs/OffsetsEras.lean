import GV.Proofs.Offsets
/-!
  C07: the Byron and the Dijkstra layout below the block level. The Byron walks
  (`extractByronOutputOffsets`; the pair loop of `extractByronTransactionOffsets`: tx payload →
  pair → tx body → outputs) and the Dijkstra transaction loop
  (`extractDijkstraTransactionOffsets`: transactions → transaction → body, witness set, aux)
  report exactly the compositions of child spans, for every header form of each array on the way.
-/
namespace GV.Model.Offsets
open GV.Cbor

/-- `bd` = a Byron transaction body `[inputs, outputs, …]`; `o` = span of its second element, an
    array with children `cs`. -/
theorem byronOutputs_exact {bd : Bytes} {hb ho : Nat} {i o : Nat × Nat} {rest cs : List (Nat × Nat)}
    (base : Nat) (hB : ArrAt bd hb (i :: o :: rest)) (hO : ArrAt (slice bd o.1 o.2) ho cs)
    (hlen : bd.length ≤ 2147483647) :
    byronOutputs bd base = cs.map fun p => (base + o.1 + p.1, p.2) := by
  obtain ⟨ei, eo, _⟩ := hB.children.contig
  have hi := wf_drop_le (hB.children.wf i (by simp))
  have ho' := wf_drop_le (hB.children.wf o (by simp))
  simp only [byronOutputs, hB.raw, List.map_cons, hO.raw]
  rw [if_neg (by omega)]
  cases cs with
  | nil => rfl
  | cons c cs' =>
    simp only [List.map_cons]
    rw [hB.hdr hlen, hO.hdr (slice_le hlen), slice_length (by omega),
      show base + hb + i.2 = base + o.1 by omega]
    exact walk_children (slice bd o.1 o.2) (base + o.1) (c :: cs') ho hO.children.contig
      hO.children.inBounds

def isArr (a : Bytes) : Bool :=
  match readHead a with
  | .mk 4 _ _ _ => true
  | _ => false

theorem isArr_head {a : Bytes} (h : isArr a = true) : ∃ ai arg hl, readHead a = .mk 4 ai arg hl := by
  unfold isArr at h
  split at h
  · rename_i ai arg hl heq; exact ⟨ai, arg, hl, heq⟩
  · cases h

/-- children of the array at span `p` of `txp` (empty if it does not parse as an array): of a
    pair of the Byron tx payload, and of a transaction of the Dijkstra transactions array -/
def pairKids (txp : Bytes) (p : Nat × Nat) : List (Nat × Nat) :=
  match childSpans (slice txp p.1 p.2) with
  | some (_, cs, _) => if isArr (slice txp p.1 p.2) then cs else []
  | none => []

/-- what the property demands for the pair at `p`: body and witness spans by path composition;
    `outs` is the model's `byronOutputs` on the body (`byronOutputs_exact` says what that is) -/
def pairTruth (txp : Bytes) (base : Nat) (p : Nat × Nat) : Loc :=
  let k := pairKids txp p
  let b := k.getD 0 (0, 0)
  let w := k.getD 1 (0, 0)
  { body := (base + p.1 + b.1, b.2), wit := (base + p.1 + w.1, w.2),
    outs := byronOutputs (slice (slice txp p.1 p.2) b.1 b.2) (base + p.1 + b.1) }

theorem pairKids_arr {txp : Bytes} {p c : Nat × Nat} {cs : List (Nat × Nat)}
    (h : pairKids txp p = c :: cs) : ∃ hl, ArrAt (slice txp p.1 p.2) hl (c :: cs) := by
  unfold pairKids at h
  split at h
  next hl kids ind hc =>
    split at h
    next ha =>
      -- an array with children `kids`
      subst h
      obtain ⟨ai, arg, hl', hrh⟩ := isArr_head ha
      obtain ⟨rfl, _⟩ := childSpans_head hc hrh
      exact ⟨_, ⟨ai, arg, hrh⟩, ⟨ind, hc⟩⟩
    · cases h  -- a map
  · cases h  -- no container

theorem byronPairs_exact (txp : Bytes) (base : Nat) (hlen : txp.length ≤ 2147483647) :
    ∀ (ps : List (Nat × Nat)) (start : Nat), Contig start ps → InBounds txp.length ps →
      (∀ p ∈ ps, 2 ≤ (pairKids txp p).length) →
      byronPairs (base + start) (ps.map fun p => slice txp p.1 p.2) =
        some (ps.map (pairTruth txp base)) := by
  intro ps
  induction ps with
  | nil => intro start _ _ _; rfl
  | cons p rest ih =>
    intro start hc hin hk
    obtain ⟨po, pl⟩ := p
    obtain ⟨rfl, hc'⟩ := hc
    have hp : po + pl ≤ txp.length := hin (po, pl) (by simp)
    have hsl : (slice txp po pl).length = pl := slice_length hp
    match hkids : pairKids txp (po, pl), hk (po, pl) (by simp) with
    | bsp :: wsp :: more, _ =>
      obtain ⟨hl, harr⟩ := pairKids_arr hkids
      -- where tx body and witnesses lie inside the pair
      obtain ⟨eb, ew, _⟩ := harr.children.contig
      have hb := harr.children.inBounds bsp (by simp)
      have hw := harr.children.inBounds wsp (by simp)
      simp only [List.map_cons, byronPairs, harr.raw]
      rw [harr.hdr (slice_le hlen), hsl, Nat.add_assoc,
        ih (po + pl) hc' (fun q hq => hin q (by simp [hq])) (fun q hq => hk q (by simp [hq]))]
      simp only [pairTruth, hkids, List.getD_cons_zero, List.getD_cons_succ]
      rw [slice_length hb, slice_length hw, eb, ew]
      simp only [Nat.add_assoc]

theorem arrayHdrExpect_of_ArrAt {a : Bytes} {hl : Nat} {cs : List (Nat × Nat)} (h : ArrAt a hl cs)
    (hlen : a.length ≤ 2147483647) : arrayHdrExpect a cs.length = some hl := by
  obtain ⟨c, ind, _, hinfo, hw⟩ := h.info hlen
  simp only [arrayHdrExpect, hinfo]
  rw [if_neg (by omega)]
  cases ind with
  | true => rfl  -- indefinite: there is no count to compare
  | false =>
    -- definite: the count in the header is the number of children
    have : 0 + cs.length = c := hw.cnt rfl
    rw [if_neg (by simp; omega)]

/-- what the property demands for the transaction at span `t` of the transactions array;
    `outs` is the model's `outputOffsets` on the body (`outputOffsets_eq`, `outputsAt_exact`
    say what that is) -/
def txTruth (txs : Bytes) (base : Nat) (t : Nat × Nat) : Loc :=
  let k := pairKids txs t
  let b := k.getD 0 (0, 0)
  let w := k.getD 1 (0, 0)
  let a := k.getD 2 (0, 0)
  { body := (base + t.1 + b.1, b.2), wit := (base + t.1 + w.1, w.2),
    aux := if slice (slice txs t.1 t.2) a.1 a.2 = [0xf6] then (0, 0) else (base + t.1 + a.1, a.2),
    outs := outputOffsets (slice (slice txs t.1 t.2) b.1 b.2) (base + t.1 + b.1) }

theorem dijkstraTxs_exact (txs : Bytes) (base hl : Nat) (all : List (Nat × Nat)) (hA : ArrAt txs hl all)
    (hlen : txs.length ≤ 2147483647) :
    ∀ (ts : List (Nat × Nat)) (start : Nat), Contig start ts → (∀ t ∈ ts, t ∈ all) →
      (∀ t ∈ ts, (pairKids txs t).length = 3) →
      dijkstraTxs txs base start (ts.map fun t => slice txs t.1 t.2) =
        some (ts.map (txTruth txs base)) := by
  intro ts
  induction ts with
  | nil => intro start _ _ _; rfl
  | cons t rest ih =>
    intro start hc hmem hk
    obtain ⟨to, tl⟩ := t
    obtain ⟨rfl, hc'⟩ := hc
    have hwt : wfItem (txs.drop to) = .ok tl := hA.children.wf _ (hmem (to, tl) (by simp))
    match hkids : pairKids txs (to, tl), hk (to, tl) (by simp) with
    | [bs, ws, as], _ =>
      obtain ⟨ht, harr⟩ := pairKids_arr hkids
      have hexp : arrayHdrExpect (slice txs to tl) 3 = some ht :=
        arrayHdrExpect_of_ArrAt harr (slice_le hlen)
      -- the cursor inside the transaction: where body, witness set and aux are skipped
      obtain ⟨_, _, _, _, hw⟩ := harr.info (slice_le hlen)
      obtain ⟨eb, wb, hw⟩ := hw.skip
      obtain ⟨ew, ww, hw⟩ := hw.skip
      obtain ⟨ea, wa, _⟩ := hw.skip
      simp only [List.map_cons, dijkstraTxs, skipItem_of_wf hwt, harr.raw, List.map_nil, hexp,
        skipItem_of_wf wb, skipItem_of_wf ww, skipItem_of_wf wa,
        ih (to + tl) hc' (fun q hq => hmem q (by simp [hq])) (fun q hq => hk q (by simp [hq]))]
      simp only [txTruth, hkids, List.getD_cons_zero, List.getD_cons_succ, eb, ew, ea, Nat.add_assoc]

end GV.Model.Offsets
