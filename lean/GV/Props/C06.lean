import GV.Model.MultiAsset
import GV.Proofs.MultiAsset
import GV.Proofs.MultiAssetEnc
import GV.Proofs.MultiAssetDec
import GV.Proofs.MultiAssetW
/-!
C06 — Multi-asset values behave as a commutative group up to zeros.

`WF m` is the Go-map invariant (distinct keys at both levels); a list
satisfying it is one Go map *in one iteration order*, so `∀ a b, WF a → WF b → …`
quantifies over all values and all iteration orders.  `qty m p n` is the
integer quantity of (policy, name) (0 when absent, zero or nil).
-/
namespace GV.Props.C06
open GV.Model.MultiAsset GV.Lib.AssocMap GV.Lib.CborLite GV.Proofs.MultiAsset

/-- Equality (`Compare`, with its length shortcuts as coded) means: equal quantities for
    every (policy, asset name) — i.e. equal non-zero quantities, zeros and nils ignored. -/
theorem compare_iff (a b : MA) (ha : WF a) (hb : WF b) :
    GV.Model.MultiAsset.compare a b = true ↔ ∀ p n, qty a p n = qty b p n :=
  GV.Proofs.MultiAsset.compare_iff ha hb

theorem compare_refl (a : MA) (ha : WF a) : GV.Model.MultiAsset.compare a a = true :=
  (compare_iff a a ha ha).mpr (fun _ _ => rfl)

theorem compare_symm (a b : MA) (ha : WF a) (hb : WF b)
    (h : GV.Model.MultiAsset.compare a b = true) : GV.Model.MultiAsset.compare b a = true :=
  (compare_iff b a hb ha).mpr (fun p n => ((compare_iff a b ha hb).mp h p n).symm)

theorem compare_trans (a b c : MA) (ha : WF a) (hb : WF b) (hc : WF c)
    (h1 : GV.Model.MultiAsset.compare a b = true) (h2 : GV.Model.MultiAsset.compare b c = true) :
    GV.Model.MultiAsset.compare a c = true :=
  (compare_iff a c ha hc).mpr (fun p n =>
    ((compare_iff a b ha hb).mp h1 p n).trans ((compare_iff b c hb hc).mp h2 p n))

open GV.Proofs.MultiAssetW in
/-- `Add` on a fixed-width instantiation is per-asset integer addition followed by the machine wrap
    `w`, for every iteration order of the operand, on a receiver holding values of the type. -/
theorem addW_qty (w : Int → Int) (a b : MA) (hb : WF b) (hR : ∀ p n, w (qty a p n) = qty a p n)
    (p n : Bytes) : qty (addW w a b) p n = w (qty a p n + qty b p n) := by
  rw [qty_addW_touched w b hb]
  split
  · rfl
  · rename_i h
    rw [qty_eq b, ival_of_not_mem h, Int.add_zero, hR]

open GV.Proofs.MultiAssetW in
theorem addW_wf (w : Int → Int) (a b : MA) (ha : WF a) : WF (addW w a b) :=
  GV.StepSystem.foldl_invariant (P := WF) b (fun _ _ _ h => wf_addInnerW w _ _ h) ha

/-- `Add` keeps the receiver a Go map (distinct keys), whatever the operand's order. -/
theorem add_wf (a b : MA) (ha : WF a) : WF (add a b) :=
  GV.Proofs.MultiAssetW.add_eq_addW a b ▸ addW_wf id a b ha

/-- `Add` is per-asset integer addition, for every iteration order of the operand. -/
theorem add_qty (a b : MA) (hb : WF b) (p n : Bytes) :
    qty (add a b) p n = qty a p n + qty b p n := by
  rw [GV.Proofs.MultiAssetW.add_eq_addW]
  exact addW_qty id a b hb (fun _ _ => rfl) p n

/-- A nil operand (`Add(nil)`) and the empty value are neutral. -/
theorem add_empty (a : MA) : add a [] = a := rfl

theorem add_comm (a b : MA) (ha : WF a) (hb : WF b) :
    GV.Model.MultiAsset.compare (add a b) (add b a) = true := by
  rw [compare_iff _ _ (add_wf a b ha) (add_wf b a hb)]
  intro p n
  rw [add_qty a b hb, add_qty b a ha]; omega

theorem add_assoc (a b c : MA) (ha : WF a) (hb : WF b) (hc : WF c) :
    GV.Model.MultiAsset.compare (add (add a b) c) (add a (add b c)) = true := by
  rw [compare_iff _ _ (add_wf _ c (add_wf a b ha)) (add_wf a _ ha)]
  intro p n
  rw [add_qty _ c hc, add_qty a b hb, add_qty a _ (add_wf b c hb), add_qty b c hc]; omega

/-- Group structure up to zeros: the pointwise negation is an inverse under `Compare`. -/
theorem add_neg_cancel (a : MA) (ha : WF a) :
    GV.Model.MultiAsset.compare
      (add a (a.map (fun e => (e.1, e.2.map (fun x => (x.1, some (- val x.2))))))) [] = true := by
  have hneg : WF (a.map (fun e => (e.1, e.2.map (fun x => (x.1, some (- val x.2)))))) := by
    refine ⟨nodupKeys_mapVal (fun (i : Inner) => i.map (fun x => (x.1, some (- val x.2)))) ha.1, ?_⟩
    intro e he
    obtain ⟨e0, he0, rfl⟩ := List.mem_map.mp he
    exact nodupKeys_mapVal (fun (x : Amt) => some (- val x)) (ha.2 e0 he0)
  rw [compare_iff _ _ (add_wf a _ ha) ⟨nodupKeys_nil, fun _ h => by simp at h⟩]
  intro p n
  rw [add_qty a _ hneg]
  have : qty (a.map (fun e => (e.1, e.2.map (fun x => (x.1, some (- val x.2)))))) p n = - qty a p n := by
    unfold qty asset
    rw [lookup_mapVal (fun (i : Inner) => i.map (fun x => (x.1, some (- val x.2)))) a p]
    cases lookup p a with
    | none => simp [val]
    | some i =>
      simp only [Option.map_some]
      rw [lookup_mapVal (fun (x : Amt) => some (- val x)) i n]
      cases lookup n i <;> simp [val]
  rw [this]
  have h0 : qty [] p n = 0 := rfl
  rw [h0]; omega

open GV.Proofs.MultiAssetEnc GV.Proofs.MultiAssetDec in
/-- **Encoding is deterministic (canonical key order).**  Two lists that represent the same Go map
    — same policies, same (name ↦ amount) entries under each, in any iteration order at either
    level — encode to the same bytes.  A list and a permutation of it are such a pair
    (`sameMap_of_perm`). -/
theorem encode_perm_invariant (a b : MA) (ha : WF a) (hb : WF b) (h : SameMap a b) :
    encodeMA a = encodeMA b :=
  GV.Proofs.MultiAssetEnc.encode_perm_invariant a b ha hb h

open GV.Proofs.MultiAssetEnc in
/-- The entries are written in bytewise order of their encoded keys, at both levels. -/
theorem encode_key_order (m : MA) :
    (sortKeys m).Pairwise (fun x y => lexLE (encBytes x.1) (encBytes y.1) = true) ∧
    ∀ e ∈ m, (sortKeys e.2).Pairwise (fun x y => lexLE (encBytes x.1) (encBytes y.1) = true) :=
  ⟨sortKeys_pairwise m, fun e _ => sortKeys_pairwise e.2⟩

open GV.Proofs.MultiAssetEnc GV.Proofs.MultiAssetDec in
/-- **Decoding an encoding** yields a value that compares equal to the original, carries no zero
    (or nil) quantity and no empty policy, and raises no duplicate-key flag.  `MAOK`: policy ids are
    28 bytes and every length fits CBOR's 64-bit length fields. -/
theorem decode_encode (a : MA) (ha : WF a) (hok : MAOK a) :
    ∃ d, decodeMA (encodeMA a) = some d ∧ d.dup = false ∧
      GV.Model.MultiAsset.compare d.value a = true ∧
      (∀ e ∈ d.value, e.2 ≠ [] ∧ ∀ x ∈ e.2, val x.2 ≠ 0) := by
  refine ⟨_, decode_encode_eq a ha hok, rfl, ?_, normalize_no_zeros _⟩
  have hc := wf_canon ha
  rw [compare_iff _ _ (wf_normalize hc) ha]
  intro p n
  show qty (normalize (canon a)) p n = qty a p n
  rw [qty_normalize hc, qty_canon ha]

open GV.Proofs.MultiAssetEnc GV.Proofs.MultiAssetDec in
/-- What the decoder returns for an encoding does not depend on the order the original was iterated
    in: two lists that represent the same Go map decode, once encoded, to the same result. -/
theorem decode_encode_same (a b : MA) (ha : WF a) (hb : WF b) (h : SameMap a b) :
    decodeMA (encodeMA a) = decodeMA (encodeMA b) := by
  rw [encode_perm_invariant a b ha hb h]

open GV.Proofs.MultiAssetEnc GV.Proofs.MultiAssetDec in
theorem sameMap_of_perm (a b : MA) (ha : WF a) (hp : a.Perm b) : SameMap a b := by
  intro p
  rw [lookup_of_perm ha.1 hp p]
  refine ⟨rfl, ?_⟩
  intro i j h1 h2 n
  rw [h1] at h2; cases h2; rfl

open GV.Proofs.MultiAssetEnc GV.Proofs.MultiAssetDec in
/-- Non-vacuity of `encode_perm_invariant` and `decode_encode`: a value with nil, zero and bignum
    amounts, presented in two iteration orders, meets every hypothesis. -/
example :
    let p : Bytes := List.replicate 28 1
    let q : Bytes := List.replicate 28 2
    let a : MA := [(p, [([7], some 5), ([], none), ([8, 8], some (-18446744073709551617))]), (q, [])]
    let b : MA := [(q, []), (p, [([7], some 5), ([], none), ([8, 8], some (-18446744073709551617))])]
    WF a ∧ WF b ∧ SameMap a b ∧ MAOK a := by
  intro p q a b
  have ha : WF a := by decide
  refine ⟨ha, by decide, sameMap_of_perm a b ha (by decide), by decide, ?_⟩
  simp only [a, List.forall_mem_cons, List.not_mem_nil, false_imp_iff, implies_true, and_true,
    InnerOK, AmtOK]
  decide

/-! `MultiAsset[int64]` / `MultiAsset[uint64]` (not instantiated outside tests: outputs and mint use
`*big.Int`).  Quantities are integers of the type's range and never nil, so `compare_iff` and its
corollaries apply to them as they stand; `Add` is `addW w` with `w` the machine wrap. -/

open GV.Proofs.MultiAssetW in
/-- `int64`: the result is the two's-complement wrap of the integer sum; it IS the integer sum
    exactly when that sum is representable (no overflow). -/
theorem add_qty_int64 (a b : MA) (hb : WF b) (hR : ∀ p n, isInt64 (qty a p n) = true) (p n : Bytes) :
    qty (addW wrapS64 a b) p n = wrapS64 (qty a p n + qty b p n) ∧
    (isInt64 (qty a p n + qty b p n) = true → qty (addW wrapS64 a b) p n = qty a p n + qty b p n) := by
  have h := addW_qty wrapS64 a b hb (fun p n => wrapS64_id _ (hR p n)) p n
  exact ⟨h, fun hs => by rw [h, wrapS64_id _ hs]⟩

open GV.Proofs.MultiAssetW in
/-- `uint64`: likewise modulo 2^64. -/
theorem add_qty_uint64 (a b : MA) (hb : WF b) (hR : ∀ p n, isUint64 (qty a p n) = true) (p n : Bytes) :
    qty (addW wrapU64 a b) p n = wrapU64 (qty a p n + qty b p n) ∧
    (isUint64 (qty a p n + qty b p n) = true → qty (addW wrapU64 a b) p n = qty a p n + qty b p n) := by
  have h := addW_qty wrapU64 a b hb (fun p n => wrapU64_id _ (hR p n)) p n
  exact ⟨h, fun hs => by rw [h, wrapU64_id _ hs]⟩

open GV.Proofs.MultiAssetW in
/-- commutative under `Compare`, overflow or not -/
theorem addW_comm (w : Int → Int) (a b : MA) (ha : WF a) (hb : WF b)
    (hRa : ∀ p n, w (qty a p n) = qty a p n) (hRb : ∀ p n, w (qty b p n) = qty b p n) :
    GV.Model.MultiAsset.compare (addW w a b) (addW w b a) = true := by
  rw [compare_iff _ _ (addW_wf w a b ha) (addW_wf w b a hb)]
  intro p n
  rw [addW_qty w a b hb hRa, addW_qty w b a ha hRb, Int.add_comm]

open GV.Proofs.MultiAssetW in
/-- associative under `Compare` for every wrap that is idempotent and compatible with addition
    (both machine wraps are: `wrapS64_idem/_add`, `wrapU64_idem/_add`) -/
theorem addW_assoc (w : Int → Int) (hidem : ∀ x, w (w x) = w x) (hadd : ∀ x y, w (w x + y) = w (x + y))
    (a b c : MA) (ha : WF a) (hb : WF b) (hc : WF c)
    (hRa : ∀ p n, w (qty a p n) = qty a p n) (hRb : ∀ p n, w (qty b p n) = qty b p n) :
    GV.Model.MultiAsset.compare (addW w (addW w a b) c) (addW w a (addW w b c)) = true := by
  have hab : ∀ p n, w (qty (addW w a b) p n) = qty (addW w a b) p n := by
    intro p n; rw [addW_qty w a b hb hRa, hidem]
  rw [compare_iff _ _ (addW_wf w _ c (addW_wf w a b ha)) (addW_wf w a _ ha)]
  intro p n
  rw [addW_qty w _ c hc hab, addW_qty w a b hb hRa, addW_qty w a _ (addW_wf w b c hb) hRa,
    addW_qty w b c hc hRb, hadd]
  rw [Int.add_comm (qty a p n) (w _), hadd, Int.add_comm _ (qty a p n), Int.add_assoc]

open GV.Proofs.MultiAssetW in
theorem machine_wraps :
    (∀ x, wrapS64 (wrapS64 x) = wrapS64 x) ∧ (∀ x y, wrapS64 (wrapS64 x + y) = wrapS64 (x + y)) ∧
    (∀ x, wrapU64 (wrapU64 x) = wrapU64 x) ∧ (∀ x y, wrapU64 (wrapU64 x + y) = wrapU64 (x + y)) :=
  ⟨wrapS64_idem, wrapS64_add, wrapU64_idem, wrapU64_add⟩

/-- Non-vacuity and the overflow behaviour: MaxInt64 + 1 wraps to MinInt64; MaxUint64 + 1 to 0. -/
example :
    qty (addW wrapS64 [([1], [([7], some 9223372036854775807)])] [([1], [([7], some 1)])]) [1] [7]
      = -9223372036854775808 ∧
    qty (addW wrapU64 [([1], [([7], some 18446744073709551615)])] [([1], [([7], some 1)])]) [1] [7] = 0 := by
  decide

/-- Non-vacuity: two different lists (orders, zero and nil entries) that are equal values. -/
example : WF [([1], [([7], some 5), ([8], none)]), ([2], [])] ∧
    WF [([2], [([9], some 0)]), ([1], [([7], some 5)])] ∧
    GV.Model.MultiAsset.compare [([1], [([7], some 5), ([8], none)]), ([2], [])]
      [([2], [([9], some 0)]), ([1], [([7], some 5)])] = true := by decide

example : GV.Model.MultiAsset.compare [([1], [([7], some 5)])] [([1], [([7], some 6)])] = false := by decide

end GV.Props.C06
